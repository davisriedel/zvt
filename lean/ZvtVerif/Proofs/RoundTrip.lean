/-
  RoundTrip.lean — serialise → deserialise, layer by layer (C01), always with arbitrary bytes `x` following the encoding:
  length prefix (`len_roundtrip`), generic `<TAG><LENGTH><DATA>` triple (`deserTagged_frame`, `deserTagged_serTagged`),
  seven of the nine leaf encodings on the payload the decoder is shown (`LeafCanon`, `leaf_seen_roundtrip`; UTF-8 and
  date-time are in Utf8DateTime.lean), binary fields and `Option` (`bytes_field_roundtrip`, `opt_*`).
-/
import ZvtVerif.Proofs.DeriveLemmas
import ZvtVerif.Properties.C16
import ZvtVerif.Properties.C17
namespace Zvt

/-- what the payload decoder gets to see behind a prefix of style `L` for payload `p`: the payload itself,
for `Fixed<N>` preceded by the zero padding. -/
def seenPayload (L : LenKind) (p : Bytes) : Bytes :=
  match L with
  | .fixed n => List.replicate (n - p.length) 0 ++ p
  | _ => p

/-- the payload length is representable in the style; `False` for the styles without a prefix that delimits the payload
(`tlv`, `llv`, `adpu`, `fixed` do). Hypothesis of `len_roundtrip` and of the frame lemmas; cf. DESIGN §5.5. -/
def LenFits : LenKind → Nat → Prop
  | .tlv, n => n ≤ 65535
  | .llv k, n => n < 10 ^ k
  | .adpu, n => n ≤ 65535
  | .fixed N, n => n ≤ N
  | _, _ => False

/-- **Length prefix round trip with payload and trailing bytes**: the parser announces a length `n` such
that the first `n` bytes behind the prefix are exactly what the payload decoder must see and the rest is
exactly `x`. -/
theorem len_roundtrip (L : LenKind) (p x : Bytes) (h : LenFits L p.length) :
    ∃ pre, L.ser p.length = .ok pre ∧ ∃ n rest, L.de (pre ++ (p ++ x)) = .ok (n, rest) ∧ n ≤ rest.length ∧
      rest.take n = seenPayload L p ∧ rest.drop n = x := by
  cases L with
  | empty | temperature | unknown => exact absurd h (by simp [LenFits])
  | tlv =>
    obtain ⟨pre, hs, hd⟩ := C16.tlv_ser_de p.length h (p ++ x)
    exact ⟨pre, hs, p.length, p ++ x, hd, by simp, by simp [seenPayload], by simp⟩
  | adpu =>
    obtain ⟨pre, hs, hd⟩ := C16.adpu_ser_de p.length h (p ++ x)
    exact ⟨pre, hs, p.length, p ++ x, hd, by simp, by simp [seenPayload], by simp⟩
  | llv k =>
    obtain ⟨pre, hs, _, hd⟩ := C16.llv_ser_de k p.length h (p ++ x)
    exact ⟨pre, hs, p.length, p ++ x, hd, by simp, by simp [seenPayload], by simp⟩
  | fixed N =>
    have hN : p.length ≤ N := h
    refine ⟨List.replicate (N - p.length) 0, C16.fixed_pad N p.length hN, N, List.replicate (N - p.length) 0 ++ (p ++ x), ?_, ?_, ?_, ?_⟩
    · rw [C16.fixed_de]
      have : ¬ ((List.replicate (N - p.length) 0 ++ (p ++ x)).length < N) := by simp; omega
      simp only [this, if_false]
    · simp; omega
    · simp only [seenPayload]
      rw [← List.append_assoc, List.take_left' (by simp; omega)]
    · rw [← List.append_assoc, List.drop_left' (by simp; omega)]

theorem stripTag_tagEnc (tag : Option Nat) (htag : ∀ t, tag = some t → tagRepresentable t) (rest : Bytes) :
    stripTag tagDecDefault tag (tagPrefix tagEncDefault tag ++ rest) = .ok rest := by
  cases tag with
  | none => simp [stripTag, tagPrefix]
  | some t =>
    simp only [stripTag, tagPrefix]
    rw [C17.tag_roundtrip t (htag t rfl) rest]
    simp

theorem tagPrefix_facts (tg : Nat) (hrep : tagRepresentable tg) (r : Bytes) :
    tagPrefix tagEncDefault (some tg) ++ r ≠ [] ∧ ∀ x, ∃ r', tagDecDefault ((tagPrefix tagEncDefault (some tg) ++ r) ++ x) = .ok (tg, r') := by
  constructor
  · have := C17.tag_shape tg
    intro h
    have hl := congrArg List.length h
    simp only [tagPrefix, List.length_append, List.length_nil] at hl
    split at this <;> omega
  · intro x
    simp only [tagPrefix, List.append_assoc]
    exact ⟨_, C17.tag_roundtrip tg hrep _⟩

theorem stripTag_BE (c : Nat × Nat) (h0 : c.1 < 256) (h1 : c.2 < 256) (rest : Bytes) :
    stripTag tagDecBE (some (ctrlTag c)) (tagPrefix tagEncBE (some (ctrlTag c)) ++ rest) = .ok rest := by
  simp only [stripTag, tagPrefix]
  rw [C17.tag_be_roundtrip _ (by simp only [ctrlTag]; omega) rest]
  simp

/-- **`deserialize_tagged ∘ serialize_tagged`** under a delimiting length style: tag (if any), length
prefix `pre` and payload `p` are written; reading them back with ANY bytes `x` behind yields the value the
payload decoder makes of exactly the payload, and hands back exactly `x`. -/
theorem deserTagged_frame {α : Type} (tagEnc : Nat → Bytes) (tagDec : Bytes → Res (Nat × Bytes)) (L : LenKind) (tag : Option Nat)
    (hstrip : ∀ rest, stripTag tagDec tag (tagPrefix tagEnc tag ++ rest) = .ok rest)
    (p pre : Bytes) (hfit : LenFits L p.length) (hs : L.ser p.length = .ok pre)
    (dec : Bytes → Res (α × Bytes)) (v : α) (hdec : dec (seenPayload L p) = .ok (v, [])) (x : Bytes) :
    deserTagged tagDec L dec tag (tagPrefix tagEnc tag ++ (pre ++ p) ++ x) = .ok (v, x) := by
  obtain ⟨pre', hs', n, rest, hd, hle, htake, hdrop⟩ := len_roundtrip L p x hfit
  obtain rfl : pre = pre' := Except.ok.inj (hs.symm.trans hs')
  exact (deserTagged_eq_ok ..).mpr ⟨pre ++ (p ++ x), n, rest, [], by rw [List.append_assoc, hstrip, List.append_assoc],
    hd, hle, by rw [htake]; exact hdec, by simp, by simpa using hdrop.symm⟩

/-- encoder and decoder in one statement, for the default tag encoding. -/
theorem deserTagged_serTagged {α : Type} (L : LenKind) (tag : Option Nat) (htag : ∀ t, tag = some t → tagRepresentable t)
    (p x : Bytes) (hfit : LenFits L p.length) (dec : Bytes → Res (α × Bytes)) (v : α)
    (hdec : dec (seenPayload L p) = .ok (v, [])) :
    ∃ bytes, serTagged tagEncDefault L tag (.ok p) = .ok bytes ∧
      deserTagged tagDecDefault L dec tag (bytes ++ x) = .ok (v, x) ∧
      ∃ pre, L.ser p.length = .ok pre ∧ bytes = tagPrefix tagEncDefault tag ++ (pre ++ p) := by
  obtain ⟨pre, hs, _⟩ := len_roundtrip L p [] hfit
  exact ⟨_, serTagged_ok _ L tag p pre hs,
    deserTagged_frame _ _ L tag (stripTag_tagEnc tag htag) p pre hfit hs dec v hdec x, pre, hs, rfl⟩

/-- canonical leaf values (DESIGN.md §5.1) of leaf type `t` under length style `L` and encoding `E`, together with
their payload `p`: seven rows, the payload explicit. The whole table is `leafCanon` (CanonDomain.lean: nine rows, the payload
hidden); its rows for UTF-8 text and date-time rest on Utf8DateTime.lean, the other seven are read off this predicate
by `leaf_seen`. -/
def LeafCanon (L : LenKind) (E : Enc) (t : Ty) (v : Val) (p : Bytes) : Prop :=
  leafEnc E t v = .ok p ∧
  match E, t, v with
  | .dflt, .int w, .num n => n < 256 ^ w ∧ (∀ N, L = .fixed N → N = w)
  | .bigEndian, .int w, .num n => n < 256 ^ w ∧ (∀ N, L = .fixed N → N = w)
  | .bcd, .int w, .num n => n < 256 ^ w
  | .prrn, .int w, .num n => (n = 0xffff ∨ n ≤ 9999) ∧ w = 8 ∧ L = .fixed 2
  | .dflt, .str, .str cs => cs.getLast? ≠ some 0 ∧ (∀ N, L = .fixed N → p.length = N)
  | .hex, .str, .str cs => (∀ c ∈ cs, isLowerHex c = true) ∧ (∀ N, L = .fixed N → p.length = N)
  | .custom, .bytes, .raw _ => (∀ N, L = .fixed N → p.length = N)
  | _, _, _ => False

theorem seen_eq_of_exact (L : LenKind) (p : Bytes) (h : ∀ N, L = .fixed N → p.length = N) : seenPayload L p = p := by
  cases L with
  | fixed N => simp only [seenPayload, h N rfl, Nat.sub_self, List.replicate_zero, List.nil_append]
  | empty | temperature | llv | unknown | tlv | adpu => rfl

theorem intLeaf_seen (be : Bool) (L : LenKind) (w n : Nat) (hn : n < 256 ^ w) (hL : ∀ N, L = .fixed N → N = w) :
    intDecode be w (seenPayload L (intEncode be w n)) = .ok (n, []) := by
  rw [seen_eq_of_exact L _ fun N hN => by rw [intEncode_length, hL N hN]]
  simpa using intDecode_intEncode be w n hn []

/-- **Leaf payload round trip**: what the value decoder makes of the bytes it is shown behind the length
prefix is exactly the value, with nothing left. -/
theorem leaf_seen_roundtrip (L : LenKind) (E : Enc) (t : Ty) (v : Val) (p : Bytes)
    (hc : LeafCanon L E t v p) : leafDec E t (seenPayload L p) = .ok (v, []) := by
  obtain ⟨henc, hcan⟩ := hc
  split at hcan
  next w n => -- dflt, int (little endian)
    cases henc
    simp only [leafDec]
    rw [show leBytes w n = intEncode false w n from rfl, intLeaf_seen false L w n hcan.1 hcan.2]; rfl
  next w n => -- bigEndian, int
    cases henc
    simp only [leafDec]
    rw [show beBytes w n = intEncode true w n from rfl, intLeaf_seen true L w n hcan.1 hcan.2]; rfl
  next w n => -- bcd, int
    cases henc
    have hb : bcdDec w (seenPayload L (bcdEncK n)) = .ok (n, []) := by
      cases L with
      | fixed N => exact (C17.bcd_leading_zeros w _ _).trans (C17.bcd_roundtrip w n hcan) -- zero padding in front
      | empty | temperature | llv | unknown | tlv | adpu => exact C17.bcd_roundtrip w n hcan
    simp only [leafDec, hb]; rfl
  next w n => -- prrn, int (receipt number)
    obtain ⟨hn, rfl, rfl⟩ := hcan
    cases henc
    simp only [leafDec, seenPayload]
    rcases hn with rfl | hn
    · have := C17.receiptNo_sentinel 8 []
      simp only [List.append_nil] at this
      have hl : (prrnEnc 65535).length = 2 := by decide +kernel
      simp only [hl, Nat.sub_self, List.replicate_zero, List.nil_append, this]; rfl
    · have := C17.receiptNo_roundtrip n hn []
      simp only [List.append_nil, padLeft] at this
      rw [this]; rfl
  next cs => -- dflt, str (CP437)
    simp only [leafEnc] at henc
    rw [seen_eq_of_exact L p hcan.2]
    simp only [leafDec, cp437_text_roundtrip cs p henc hcan.1]
  next cs => -- hex, str
    simp only [leafEnc] at henc
    rw [seen_eq_of_exact L p hcan.2]
    simp only [leafDec, hexDecode_hexEncode cs p hcan.1 henc]
  next b => -- custom, bytes
    cases henc
    rw [seen_eq_of_exact L _ hcan]
    simp [leafDec]
  next => exact hcan.elim -- no other row

/-- binary payload (`Vec<u8>` under `Custom`): non-empty payloads round-trip; the empty payload is omitted
together with its tag (outside the canonical domain). -/
theorem bytes_field_roundtrip (L : LenKind) (tag : Option Nat) (htag : ∀ tg, tag = some tg → tagRepresentable tg)
    (b : Bytes) (hne : b ≠ []) (hc : LeafCanon L .custom .bytes (.raw b) b) (hfit : LenFits L b.length) (x : Bytes) :
    ∃ bytes, Ty.ser .bytes L .custom tag (.raw b) = .ok bytes ∧ Ty.de .bytes L .custom tag (bytes ++ x) = .ok (.raw b, x) ∧
      ∃ pre, L.ser b.length = .ok pre ∧ bytes = tagPrefix tagEncDefault tag ++ (pre ++ b) := by
  have hdec := leaf_seen_roundtrip L .custom .bytes (.raw b) b hc
  obtain ⟨bytes, hs, hd, hpre⟩ := deserTagged_serTagged L tag htag b x hfit (leafDec .custom .bytes) (.raw b) hdec
  refine ⟨bytes, ?_, by simp only [Ty.de]; exact hd, hpre⟩
  have : b.isEmpty = false := by simpa using hne
  simp only [Ty.ser, this]
  simpa [leafEnc] using hs

theorem opt_de_some {t : Ty} {L : LenKind} {E : Enc} {tag : Option Nat} {b r : Bytes} {v : Val}
    (h : Ty.de t L E tag b = .ok (v, r)) : Ty.de (.opt t) L E tag b = .ok (.some v, r) := by
  cases tag <;> simp only [Ty.de, h]

/-- **Optional fields.** A present value of a tagged `Option<T>` field is written and read exactly like a
`T`; an absent one writes nothing at all (no tag, no length). -/
theorem opt_some_roundtrip (t : Ty) (L : LenKind) (E : Enc) (tg : Nat) (v : Val) (bytes x : Bytes)
    (hs : Ty.ser t L E (some tg) v = .ok bytes) (hd : Ty.de t L E (some tg) (bytes ++ x) = .ok (v, x)) :
    Ty.ser (.opt t) L E (some tg) (.some v) = .ok bytes ∧ Ty.de (.opt t) L E (some tg) (bytes ++ x) = .ok (.some v, x) := by
  exact ⟨by simp only [Ty.ser]; exact hs, opt_de_some hd⟩

theorem opt_none_writes_nothing (t : Ty) (L : LenKind) (E : Enc) (tag : Option Nat) :
    Ty.ser (.opt t) L E tag .none = .ok [] := by simp [Ty.ser]

/-- a positional `Option<T>` that is present decodes as present (its absence is not representable unless the
decoder of `T` fails on what follows — DESIGN.md §5.1). -/
theorem opt_positional_some (t : Ty) (L : LenKind) (E : Enc) (v : Val) (bytes x : Bytes)
    (hd : Ty.de t L E none (bytes ++ x) = .ok (v, x)) :
    Ty.de (.opt t) L E none (bytes ++ x) = .ok (.some v, x) :=
  opt_de_some hd

end Zvt
