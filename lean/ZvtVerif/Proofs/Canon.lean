/-
  Canon.lean — the generic round trip over the domain of CanonDomain.lean: leaves (`leaf_rt`), `Vec` fields
  (`vec_fieldRT`), a struct body from the decomposition of its field list (`decomp_rt`), every field of every
  well-formed schema (`Ty.rt` / `fields_rt`), packets (`packet_roundtrip`).
-/
import ZvtVerif.Proofs.StructRT
import ZvtVerif.Proofs.CanonDomain
namespace Zvt

theorem leaf_ser_eq (t : Ty) (ht : IsLeafTy t) (L : LenKind) (E : Enc) (tag : Option Nat) (v : Val)
    (hb : ∀ b, t = .bytes → v = .raw b → b ≠ []) (hv : ∀ p, leafEnc E t v = .ok p → True) (hty : t = .bytes → ∃ b, v = .raw b) :
    Ty.ser t L E tag v = serTagged tagEncDefault L tag (leafEnc E t v) := by
  cases t with
  | int | str | dateTime => simp only [Ty.ser]
  | bytes =>
    obtain ⟨b, rfl⟩ := hty rfl
    have : b.isEmpty = false := by simpa using hb b rfl rfl
    simp only [Ty.ser, this, Bool.false_eq_true, if_false]
  | struct | opt | vec => exact ht.elim

/-- styles without a delimiting prefix (`Empty`, `Temperature`) write nothing and announce everything there is. -/
theorem len_end (L : LenKind) (hL : L = .empty ∨ L = .temperature) (p : Bytes) (hlen : LenOK L p.length) :
    L.ser p.length = .ok [] ∧ L.de p = .ok (p.length, p) := by
  rcases hL with rfl | rfl
  · exact ⟨rfl, rfl⟩
  · have hl : p.length = 3 ∨ p.length = 4 := hlen
    have h1 : ¬ (p.length < 3) := by omega
    have h2 : min p.length 4 = p.length := by omega
    exact ⟨rfl, by simp only [LenKind.de, h1, if_false, h2]⟩

/-- … so the value decoder sees everything up to the end. -/
theorem deserTagged_end {α : Type} (L : LenKind) (hL : L = .empty ∨ L = .temperature)
    (tagDec : Bytes → Res (Nat × Bytes)) (tag : Option Nat) (dec : Bytes → Res (α × Bytes)) (b p : Bytes) (v : α)
    (hlen : LenOK L p.length) (hs : stripTag tagDec tag b = .ok p) (hd : dec p = .ok (v, [])) :
    deserTagged tagDec L dec tag b = .ok (v, []) :=
  (deserTagged_eq_ok ..).mpr ⟨p, p.length, p, [], hs, (len_end L hL p hlen).2, Nat.le_refl _,
    by rw [List.take_length]; exact hd, by simp, by simp⟩

theorem leaf_seen (L : LenKind) (E : Enc) (t : Ty) (v : Val) (hwf : leafLenOK L E t = true) (hc : leafCanon L E t v) :
    ∃ p, leafEnc E t v = .ok p ∧ LenOK L p.length ∧ leafDec E t (seenPayload L p) = .ok (v, []) := by
  obtain ⟨p, henc, hlen, hm⟩ := hc
  refine ⟨p, henc, hlen, ?_⟩
  split at hm
  next w n => -- little endian: under `Fixed<N>` the style admits only `N` = the width
    refine leaf_seen_roundtrip L _ _ _ p ⟨henc, hm, fun N hN => ?_⟩
    subst hN; exact eq_of_beq hwf
  next w n => -- big endian
    refine leaf_seen_roundtrip L _ _ _ p ⟨henc, hm, fun N hN => ?_⟩
    subst hN; exact eq_of_beq hwf
  next => exact leaf_seen_roundtrip L _ _ _ p ⟨henc, hm⟩ -- BCD
  next w n => -- receipt number: only as `Fixed<2>` of a `u64`
    refine leaf_seen_roundtrip L _ _ _ p ⟨henc, hm, ?_⟩
    cases L <;> simp [leafLenOK] at hwf
    obtain ⟨rfl, rfl⟩ := hwf
    exact ⟨rfl, rfl⟩
  next => exact leaf_seen_roundtrip L _ _ _ p ⟨henc, hm⟩ -- CP437 text
  next => exact leaf_seen_roundtrip L _ _ _ p ⟨henc, hm⟩ -- hex text
  next cs => -- UTF-8 text
    cases henc
    rw [seen_eq_of_exact L _ hm.2]
    simp only [leafDec, utf8_roundtrip cs hm.1]
  next => exact leaf_seen_roundtrip L _ _ _ p ⟨henc, hm.2⟩ -- binary payload
  next d tm => -- date-time: never under `Fixed`
    obtain ⟨p', he, hd⟩ := dt_roundtrip d tm hm
    obtain rfl : p' = p := Except.ok.inj (he.symm.trans henc)
    have hs : seenPayload L p' = p' := seen_eq_of_exact L p' fun N hN => by subst hN; cases hwf
    rw [hs]
    exact hd
  next => exact hm.elim

theorem lenOK_delim (L : LenKind) (n : Nat) (hd : L.delim = true) (h : LenOK L n) : LenFits L n := by
  cases L <;> simp [LenKind.delim] at hd <;> exact h

/-- **The frame of a field**: tag (if any), length prefix `pre` (if any) and payload `p` are read back in front of `x`
— any `x` when the length style delimits the payload or, without prefix, when the payload decoder finds its own end
(`c`); otherwise at the end of the container. `c` is a parameter because the two callers decide it differently:
`L = .empty ∧ selfEnding E t` for a leaf (`leaf_rt`), `fieldsTransparent fs` for a struct (`struct_field_of_payload`);
the conclusion's `if` is then literally the one in `leafFollow` / `Ty.follow`. -/
theorem frame_rt {α : Type} (L : LenKind) (hL : L.delim = true ∨ L = .empty ∨ L = .temperature) (tag : Option Nat)
    (htag : tagOK tag = true) (dec : Bytes → Res (α × Bytes)) (p : Bytes) (v : α)
    (hlen : LenOK L p.length) (hseen : dec (seenPayload L p) = .ok (v, []))
    (c : Prop) [Decidable c] (hself : c → L ≠ .temperature ∧ ∀ x, dec (p ++ x) = .ok (v, x)) :
    ∃ pre, L.ser p.length = .ok pre ∧ ∀ x, (if L.delim then Follow.any else if c then .any else .endOnly).holds x →
      deserTagged tagDecDefault L dec tag (tagPrefix tagEncDefault tag ++ (pre ++ p) ++ x) = .ok (v, x) := by
  have hstrip := stripTag_tagEnc tag fun tg h => by subst h; simpa [tagOK] using htag
  by_cases hd : L.delim = true
  · have hfit := lenOK_delim L p.length hd hlen
    obtain ⟨pre, hs, _⟩ := len_roundtrip L p [] hfit
    exact ⟨pre, hs, fun x _ => deserTagged_frame _ _ L tag hstrip p pre hfit hs _ v hseen x⟩
  · have hL' : L = .empty ∨ L = .temperature := hL.resolve_left hd
    have hsp : seenPayload L p = p := by rcases hL' with rfl | rfl <;> rfl
    rw [hsp] at hseen
    refine ⟨[], (len_end L hL' p hlen).1, fun x hx => ?_⟩
    rw [List.nil_append, List.append_assoc]
    rw [if_neg hd] at hx
    by_cases hc : c
    · obtain rfl : L = .empty := hL'.resolve_right (hself hc).1
      exact deserTagged_empty_ok _ tag _ _ p x v (hstrip _) ((hself hc).2 x)
    · rw [if_neg hc] at hx
      obtain rfl : x = [] := hx
      exact deserTagged_end L hL' _ tag _ _ p v hlen (by rw [List.append_nil]; exact hstrip p) hseen

theorem leaf_ser_canon (t : Ty) (ht : IsLeafTy t) (L : LenKind) (E : Enc) (tag : Option Nat) (v : Val)
    (hc : leafCanon L E t v) : Ty.ser t L E tag v = serTagged tagEncDefault L tag (leafEnc E t v) := by
  -- a canonical binary payload is not empty
  have hraw : t = .bytes → ∃ b, v = .raw b ∧ b ≠ [] := by
    rintro rfl
    obtain ⟨_, _, _, hm⟩ := hc
    cases E <;> cases v <;> first | exact hm.elim | exact ⟨_, rfl, hm.1⟩
  refine leaf_ser_eq t ht L E tag v (fun b hb hv => ?_) (fun _ _ => trivial) (fun hb => ?_)
  · obtain ⟨b', hv', hne⟩ := hraw hb
    rw [hv] at hv'; cases hv'; exact hne
  · obtain ⟨b, hv, _⟩ := hraw hb
    exact ⟨b, hv⟩

/-- fixed-width integers find their own end. -/
theorem leafDec_selfEnding (E : Enc) (t : Ty) (hse : selfEnding E t = true) (L : LenKind) (v : Val) (p : Bytes)
    (hc : leafCanon L E t v) (henc : leafEnc E t v = .ok p) (x : Bytes) : leafDec E t (p ++ x) = .ok (v, x) := by
  obtain ⟨_, _, _, hm⟩ := hc
  have key : ∀ be w n, n < 256 ^ w →
      (intDecode be w (intEncode be w n ++ x)).map (fun (n, r) => (Val.num n, r)) = .ok (.num n, x) :=
    fun be w n hn => by rw [intDecode_intEncode be w n hn x]; rfl
  unfold selfEnding at hse
  split at hse
  next =>
    cases v with
    | num n => cases henc; exact key false _ n hm
    | str | raw | dt | none | some | vec | struct => exact hm.elim
  next =>
    cases v with
    | num n => cases henc; exact key true _ n hm
    | str | raw | dt | none | some | vec | struct => exact hm.elim
  next => cases hse

/-- **Leaf fields, all shapes**: tag (if any), length prefix (if any) and payload of a canonical value are
read back as exactly that value; what follows is handed back untouched whenever the field delimits itself,
and a field that takes everything is read back at the end of its container. -/
theorem leaf_rt (t : Ty) (ht : IsLeafTy t) (L : LenKind) (E : Enc) (tag : Option Nat) (v : Val)
    (hwf : leafWf t L E tag = true) (hc : leafCanon L E t v) :
    ∃ bytes, Ty.ser t L E tag v = .ok bytes ∧
      (∀ x, (leafFollow t L E).holds x → Ty.de t L E tag (bytes ++ x) = .ok (v, x)) ∧
      ∃ r, bytes = tagPrefix tagEncDefault tag ++ r := by
  simp only [leafWf, Bool.and_eq_true] at hwf
  obtain ⟨⟨_, htg⟩, hlenok⟩ := hwf
  obtain ⟨p, henc, hlen, hseen⟩ := leaf_seen L E t v hlenok hc
  have hL : L.delim = true ∨ L = .empty ∨ L = .temperature := by
    cases L with
    | tlv | llv | fixed => exact .inl rfl
    | empty => exact .inr (.inl rfl)
    | temperature => exact .inr (.inr rfl)
    | adpu | unknown => simp [leafLenOK] at hlenok
  obtain ⟨pre, hs, hde⟩ := frame_rt L hL tag htg (leafDec E t) p v hlen hseen (L = .empty ∧ selfEnding E t = true)
    fun hse => ⟨by rw [hse.1]; simp, leafDec_selfEnding E t hse.2 L v p hc henc⟩
  refine ⟨_, by rw [leaf_ser_canon t ht L E tag v hc, henc]; exact serTagged_ok _ L tag p pre hs, fun x hx => ?_, _, rfl⟩
  rw [leaf_de_eq t ht]
  exact hde x hx

structure FieldRT (t : Ty) (L : LenKind) (E : Enc) (tag : Option Nat) (v : Val) (bytes : Bytes) : Prop where
  ser : Ty.ser t L E tag v = .ok bytes
  de : Present v → ∀ x, (Ty.follow t L E tag).holds x → Ty.de t L E tag (bytes ++ x) = .ok (v, x)
  tagged : ∀ tg, tag = some tg → Present v → bytes ≠ [] ∧ ∀ x, ∃ r, tagDecDefault (bytes ++ x) = .ok (tg, r)
  absent : ¬ Present v → bytes = [] ∧ t.isOptional = true ∧ v = t.dflt

theorem follow_holds_nil (F : Follow) : F.holds [] := by
  cases F with
  | any => trivial
  | noStart t => exact noStart_nil t
  | endOnly => rfl

theorem leafCanon_present (L : LenKind) (E : Enc) (t : Ty) (v : Val) (h : leafCanon L E t v) : Present v := by
  obtain ⟨p, _, _, hm⟩ := h
  split at hm <;> first | exact hm.elim | trivial

theorem leaf_fieldRT (t : Ty) (ht : IsLeafTy t) (L : LenKind) (E : Enc) (tag : Option Nat) (v : Val)
    (hfo : Ty.follow t L E tag = leafFollow t L E)
    (hwf : leafWf t L E tag = true) (hc : leafCanon L E t v) : ∃ bytes, FieldRT t L E tag v bytes := by
  obtain ⟨bytes, hs, hd, r, hb⟩ := leaf_rt t ht L E tag v hwf hc
  have hp := leafCanon_present L E t v hc
  refine ⟨bytes, ⟨hs, fun _ x hx => hd x (by rw [← hfo]; exact hx), ?_, fun h => absurd hp h⟩⟩
  intro tg htg _
  subst htg
  have hrep : tagRepresentable tg := by
    simp only [leafWf, Bool.and_eq_true] at hwf
    simpa [tagOK] using hwf.1.2
  rw [hb]
  exact tagPrefix_facts tg hrep r

theorem serListWith_ok (f : Val → Res Bytes) : ∀ (es : List (Val × Bytes)), (∀ e ∈ es, f e.1 = .ok e.2) →
    serListWith f (es.map (·.1)) = .ok (es.flatMap (·.2)) := by
  intro es
  induction es with
  | nil => intro _; rfl
  | cons e es ih =>
    intro h
    simp only [List.map_cons, serListWith, List.flatMap_cons]
    rw [h e (by simp), ih (fun x hx => h x (by simp [hx]))]

/-- the element loop of `Vec<T>::deserialize_tagged` on the encodings of the elements followed by something
on which the element decoder fails (without panicking). -/
theorem vecLoop_elems (elem : Bytes → Res (Val × Bytes)) (x : Bytes)
    (hx : ∃ err, elem x = .error err ∧ err.isPanic = false) :
    ∀ (es : List (Val × Bytes)) (fuel : Nat) (acc : List Val),
      (∀ e ∈ es, e.2 ≠ [] ∧ ∀ y, elem (e.2 ++ y) = .ok (e.1, y)) → es.length < fuel →
      vecLoop elem fuel (es.flatMap (·.2) ++ x) acc = .ok (.vec (acc.reverse ++ es.map (·.1)), x) := by
  intro es
  induction es with
  | nil =>
    intro fuel acc _ hf
    obtain ⟨err, he, hp⟩ := hx
    cases fuel with
    | zero => omega
    | succ f => simp [vecLoop, he, hp]
  | cons e es ih =>
    intro fuel acc h hf
    cases fuel with
    | zero => omega
    | succ f =>
      obtain ⟨hne, hd⟩ := h e (by simp)
      simp only [List.flatMap_cons, List.append_assoc, vecLoop, hd]
      have hprog : ¬ ((es.flatMap (·.2) ++ x).length = (e.2 ++ (es.flatMap (·.2) ++ x)).length) := by
        have := List.length_pos_iff.mpr hne
        rw [List.length_append (as := e.2)]; omega
      simp only [hprog, if_false]
      rw [ih f (e.1 :: acc) (fun y hy => h y (by simp [hy])) (by simp at hf; omega)]
      simp

theorem plain_de_noStart (t : Ty) (hp : t.plain = true) (L : LenKind) (E : Enc) (tg : Nat) (x : Bytes) (hx : NoStart tg x) :
    ∃ err, Ty.de t L E (some tg) x = .error err ∧ err.isPanic = false := by
  rw [de_plain t hp]
  unfold deserTagged stripTag
  cases htd : tagDecDefault x with
  | error e =>
    refine ⟨e, rfl, ?_⟩
    have := (tagDecDefault_np x).1
    rw [htd] at this
    simpa [Res.isPanic] using this
  | ok p =>
    obtain ⟨a, r⟩ := p
    have hne : a ≠ tg := by
      intro h; subst h; exact hx r htd
    simp only [hne, ne_eq, not_false_eq_true, if_true]
    exact ⟨.wrongTag a, rfl, rfl⟩

theorem length_le_flatMap (es : List (Val × Bytes)) (h : ∀ e ∈ es, e.2 ≠ []) : es.length ≤ (es.flatMap (·.2)).length := by
  induction es with
  | nil => simp
  | cons e es ih =>
    have := ih (fun x hx => h x (by simp [hx]))
    have := List.length_pos_iff.mpr (h e (by simp))
    rw [List.flatMap_cons, List.length_append, List.length_cons]
    omega

theorem exists_pairs {α β : Type} {P : α → β → Prop} : ∀ l : List α, (∀ a ∈ l, ∃ b, P a b) →
    ∃ es : List (α × β), es.map (·.1) = l ∧ ∀ e ∈ es, P e.1 e.2
  | [], _ => ⟨[], rfl, by simp⟩
  | a :: l, h => by
    obtain ⟨es, hm, he⟩ := exists_pairs l fun x hx => h x (by simp [hx])
    obtain ⟨b, hb⟩ := h a (by simp)
    exact ⟨(a, b) :: es, by simp [hm], List.forall_mem_cons.mpr ⟨hb, he⟩⟩

/-- a `Vec` field from its elements: each writes bytes that begin with the field's number and is read back in front of
anything, so the element loop runs through them and stops at whatever does not begin with that number. -/
theorem vec_fieldRT (t : Ty) (hpl : t.plain = true) (L : LenKind) (E : Enc) (tg : Nat) (hfo : Ty.follow t L E (some tg) = .any)
    (es : List (Val × Bytes)) (hes : ∀ e ∈ es, FieldRT t L E (some tg) e.1 e.2) (hpres : ∀ e ∈ es, Present e.1) :
    FieldRT (.vec t) L E (some tg) (.vec (es.map (·.1))) (es.flatMap (·.2)) := by
  have hne : ∀ e ∈ es, e.2 ≠ [] := fun e he => ((hes e he).tagged tg rfl (hpres e he)).1
  refine ⟨?_, ?_, ?_, ?_⟩
  · simp only [Ty.ser]; exact serListWith_ok _ es (fun e he => (hes e he).ser)
  · intro _ x hx
    simp only [Ty.follow] at hx
    have hx' : NoStart tg x := hx
    simp only [Ty.de]
    have := vecLoop_elems (fun y => Ty.de t L E (some tg) y) x (plain_de_noStart t hpl L E tg x hx') es
      ((es.flatMap (·.2) ++ x).length + 1) []
      (fun e he => ⟨hne e he, fun y => (hes e he).de (hpres e he) y (by rw [hfo]; trivial)⟩)
      (by have := length_le_flatMap es hne; simp only [List.length_append]; omega)
    simpa using this
  · intro tg' htg' hp
    cases htg'
    cases es with
    | nil => simp [Present] at hp
    | cons e es' =>
      obtain ⟨h1, h2⟩ := (hes e (by simp)).tagged tg rfl (hpres e (by simp))
      constructor
      · simp only [List.flatMap_cons, ne_eq, List.append_eq_nil_iff, h1, false_and, not_false_eq_true]
      · intro x
        simp only [List.flatMap_cons, List.append_assoc]
        exact h2 _
  · intro hp
    cases es with
    | nil => exact ⟨rfl, rfl, rfl⟩
    | cons e es' => exact absurd (by simp [Present]) hp

/-- positional field that is read back at the end of the container. -/
def PF.OKe (p : PF) : Prop :=
  p.f.tag = none ∧ Ty.ser p.f.ty p.f.len p.f.enc none p.v = .ok p.bytes ∧
  Ty.de p.f.ty p.f.len p.f.enc none p.bytes = .ok (p.v, [])

theorem posOn_snoc : ∀ (ps : List PF) (g : PF), PosOn ps g.bytes → g.OKe → PosOn (ps ++ [g]) []
  | [], g, _, hg => ⟨⟨hg.1, hg.2.1⟩, by simpa using hg.2.2, trivial⟩
  | p :: ps, g, h, hg => ⟨h.1, by simpa using h.2.1, posOn_snoc ps g h.2.2 hg⟩

/-- **Struct with a trailing greedy field**: positional fields (each read back in front of what follows it here)
followed by one last positional field that takes all there is. -/
theorem struct_payload_roundtrip_greedy (ps : List PF) (g : PF) (hps : PosOn ps g.bytes) (hg : g.OKe) :
    encFields (ps.map (·.f) ++ [g.f]) (ps.map (·.v) ++ [g.v]) = .ok (ps.flatMap (·.bytes) ++ g.bytes) ∧
    decStruct (ps.map (·.f) ++ [g.f]) (ps.flatMap (·.bytes) ++ g.bytes) = .ok (.struct (ps.map (·.v) ++ [g.v]), []) := by
  simpa using struct_payload_roundtrip_at (ps ++ [g]) [] (by simpa using posOn_snoc ps g hps hg) (by simp) (by simp)

structure Decomp where
  ps : List PF
  g : Option PF
  qs : List TF

def Decomp.gl (D : Decomp) : List PF :=
  match D.g with
  | none => []
  | some p => [p]

def Decomp.fields (D : Decomp) : List Field := D.ps.map (·.f) ++ (D.gl.map (·.f) ++ D.qs.map (·.f))
def Decomp.vals (D : Decomp) : List Val := D.ps.map (·.v) ++ (D.gl.map (·.v) ++ D.qs.map (·.v))
def Decomp.bytes (D : Decomp) : Bytes := D.ps.flatMap (·.bytes) ++ (D.gl.flatMap (·.bytes) ++ D.qs.flatMap (·.bytes))

/-- what follows the positional prefix inside the struct body. -/
def Decomp.tail (D : Decomp) : Bytes := D.gl.flatMap (·.bytes) ++ D.qs.flatMap (·.bytes)

structure Decomp.OK (D : Decomp) : Prop where
  ps : PosOn D.ps D.tail
  g : ∀ p ∈ D.gl, p.OKe
  gq : D.g ≠ none → D.qs = []
  qs : ∀ q ∈ D.qs, q.OK
  nd : (D.qs.map (·.t)).Nodup

/-- **The struct body**, from a decomposition: `encode` writes the concatenation, `decode` reads it back with
nothing left; and a struct of positional fields only, each decoding whatever follows it, hands back whatever
follows the struct. -/
theorem decomp_rt (D : Decomp) (h : D.OK) :
    encFields D.fields D.vals = .ok D.bytes ∧ decStruct D.fields D.bytes = .ok (.struct D.vals, []) ∧
    (D.g = none → D.qs = [] → (∀ p ∈ D.ps, p.OK) → ∀ x, decStruct D.fields (D.bytes ++ x) = .ok (.struct D.vals, x)) := by
  obtain ⟨ps, g, qs⟩ := D
  cases g with
  | none =>
    have hps : PosOn ps (qs.flatMap (·.bytes)) := by simpa [Decomp.tail, Decomp.gl] using h.ps
    simp only [Decomp.fields, Decomp.vals, Decomp.bytes, Decomp.gl, List.map_nil, List.flatMap_nil, List.nil_append]
    obtain ⟨h1, h2⟩ := struct_payload_roundtrip_at ps qs hps h.qs h.nd
    refine ⟨h1, h2, ?_⟩
    intro _ hq hall x
    have hq' : qs = [] := hq
    subst hq'
    simpa using struct_positional_suffix ps hall x
  | some p =>
    have hq : qs = [] := h.gq (by simp)
    subst hq
    have hps : PosOn ps p.bytes := by simpa [Decomp.tail, Decomp.gl] using h.ps
    simp only [Decomp.fields, Decomp.vals, Decomp.bytes, Decomp.gl, List.map_cons, List.map_nil, List.flatMap_cons,
      List.flatMap_nil, List.append_nil]
    obtain ⟨h1, h2⟩ := struct_payload_roundtrip_greedy ps p hps (h.g p (by simp [Decomp.gl]))
    exact ⟨h1, h2, fun hn => by simp at hn⟩

theorem allTagged_decomp (D : Decomp) (h : D.OK) (ht : ∀ f ∈ D.fields, f.tag.isSome = true) : D.ps = [] ∧ D.g = none := by
  obtain ⟨ps, g, qs⟩ := D
  constructor
  · cases ps with
    | nil => rfl
    | cons p ps =>
      have := ht p.f (by simp [Decomp.fields])
      rw [(posOn_ok0 _ _ h.ps p (by simp)).1] at this
      simp at this
  · cases g with
    | none => rfl
    | some p =>
      have := ht p.f (by simp [Decomp.fields, Decomp.gl])
      rw [(h.g p (by simp [Decomp.gl])).1] at this
      simp at this

theorem leafFollow_ne_noStart (t : Ty) (L : LenKind) (E : Enc) (t' : Nat) : leafFollow t L E ≠ .noStart t' := by
  intro h
  unfold leafFollow at h
  split at h
  · cases h
  · split at h <;> cases h

/-- only a `Vec` field restricts what may follow it to "not my own number". -/
theorem follow_noStart : ∀ (ty : Ty) (L : LenKind) (E : Enc) (t t' : Nat), Ty.follow ty L E (some t) = .noStart t' → t' = t
  | .opt ty, L, E, t, t', h => by
    simp only [Ty.follow] at h
    exact follow_noStart ty L E t t' h
  | .vec _, _, _, t, t', h => by
    simp only [Ty.follow] at h
    cases h; rfl
  | .struct fs, L, _, t, t', h => by
    simp only [Ty.follow] at h
    split at h
    · cases h
    · split at h <;> cases h
  | .int _, L, E, _, t', h | .str, L, E, _, t', h | .bytes, L, E, _, t', h | .dateTime, L, E, _, t', h => by
    simp only [Ty.follow] at h
    exact absurd h (leafFollow_ne_noStart _ L E t')

theorem plain_canon_present (t : Ty) (hp : t.plain = true) (L : LenKind) (E : Enc) (tag : Option Nat) (v : Val)
    (hc : Ty.canon t L E tag v) : Present v := by
  cases t with
  | int | str | bytes | dateTime => simp only [Ty.canon] at hc; exact leafCanon_present _ _ _ _ hc
  | struct fs =>
    simp only [Ty.canon] at hc
    cases v with
    | struct => simp [Present]
    | num | str | raw | dt | none | some | vec => exact hc.elim
  | opt | vec => cases hp

theorem struct_field_of_payload (fs : List Field) (vs : List Val) (p : Bytes)
    (henc : encFields fs vs = .ok p) (hdec : decStruct fs p = .ok (.struct vs, []))
    (hsuf : fieldsTransparent fs = true → ∀ x, decStruct fs (p ++ x) = .ok (.struct vs, x))
    (L : LenKind) (E : Enc) (tag : Option Nat) (htg : tagOK tag = true) (hL : structLenOK L = true)
    (hlen : LenOK L p.length) : ∃ bytes, FieldRT (.struct fs) L E tag (.struct vs) bytes := by
  have hL' : L.delim = true ∨ L = .empty ∨ L = .temperature := by
    cases L with
    | tlv | llv => exact .inl rfl
    | empty => exact .inr (.inl rfl)
    | fixed | adpu | temperature | unknown => cases hL
  have hseen : seenPayload L p = p := seen_eq_of_exact L p fun N hN => by subst hN; cases hL
  obtain ⟨pre, hs, hde⟩ := frame_rt L hL' tag htg (decStruct fs) p (.struct vs) hlen (by rw [hseen]; exact hdec)
    (fieldsTransparent fs = true) fun htr => ⟨fun h => (by subst h; cases hL), hsuf htr⟩
  refine ⟨_, ⟨by simp only [Ty.ser, henc]; exact serTagged_ok _ L tag p pre hs, fun _ x hx => ?_, ?_, fun h => absurd (by simp [Present]) h⟩⟩
  · rw [de_plain _ rfl]
    simp only [Ty.follow] at hx
    exact hde x hx
  · intro tg h _; subst h; exact tagPrefix_facts tg (by simpa [tagOK] using htg) _

theorem absent_pos_is_none (ty : Ty) (L : LenKind) (E : Enc) (v : Val) (hwf : Ty.wf ty L E none = true)
    (hc : Ty.canon ty L E none v) (hp : ¬ Present v) : v = .none := by
  cases v with
  | none => rfl
  | vec vs =>
    cases ty with
    | vec t => simp [Ty.wf] at hwf
    | opt t => simp only [Ty.canon] at hc
    | int | str | bytes | dateTime =>
      exact absurd (leafCanon_present _ _ _ _ (by simpa only [Ty.canon] using hc)) hp
    | struct fs => simp only [Ty.canon] at hc
  | num | str | raw | dt | some | struct => exact absurd (by simp [Present]) hp

theorem TF.ok_of_fieldRT (name : String) (t : Nat) (L : LenKind) (E : Enc) (ty : Ty) (v : Val) (bytes : Bytes)
    (hrt : FieldRT ty L E (some t) v bytes) (hne : Ty.follow ty L E (some t) ≠ .endOnly) :
    TF.OK { f := .mk name (some t) L E ty, t := t, v := v, bytes := bytes,
            present := decide (Present v), strict := decide (Ty.follow ty L E (some t) = .any) } := by
  refine ⟨rfl, hrt.ser, ?_⟩
  by_cases hp : Present v
  · simp only [hp, decide_true, if_true]
    obtain ⟨h1, h2⟩ := hrt.tagged t rfl hp
    refine ⟨h1, h2, fun x hx => hrt.de hp x ?_⟩
    cases hF : Ty.follow ty L E (some t) with
    | any => trivial
    | endOnly => exact absurd hF hne
    | noStart t' =>
      have := follow_noStart ty L E t t' hF
      subst this
      rcases hx with hx | hx
      · simp [hF] at hx
      · exact hx
  · simp only [hp, decide_false, Bool.false_eq_true, if_false]
    exact hrt.absent hp

mutual
/-- **Every field of every well-formed schema round-trips on its canonical values.** -/
theorem Ty.rt : ∀ (t : Ty) (L : LenKind) (E : Enc) (tag : Option Nat) (v : Val),
    Ty.wf t L E tag = true → Ty.canon t L E tag v → ∃ bytes, FieldRT t L E tag v bytes
  | .int _, L, E, tag, v, hwf, hc | .str, L, E, tag, v, hwf, hc | .bytes, L, E, tag, v, hwf, hc
  | .dateTime, L, E, tag, v, hwf, hc => by
    simp only [Ty.wf] at hwf; simp only [Ty.canon] at hc
    exact leaf_fieldRT _ (by trivial) L E tag v (by simp only [Ty.follow]) hwf hc
  | .opt t, L, E, tag, v, hwf, hc => by
    simp only [Ty.wf, Bool.and_eq_true] at hwf
    obtain ⟨hpl, hwf'⟩ := hwf
    cases v <;> simp only [Ty.canon] at hc
    case none =>
      exact ⟨[], ⟨opt_none_writes_nothing t L E tag, fun h => absurd h (by simp [Present]), fun _ _ h => absurd h (by simp [Present]),
        fun _ => ⟨rfl, rfl, rfl⟩⟩⟩
    case some v' =>
      obtain ⟨bytes, hrt⟩ := Ty.rt t L E tag v' hwf' hc
      have hp' := plain_canon_present t hpl L E tag v' hc
      exact ⟨bytes, ⟨by simp only [Ty.ser]; exact hrt.ser, fun _ x hx => opt_de_some (hrt.de hp' x (by simpa only [Ty.follow] using hx)),
        fun tg htg _ => hrt.tagged tg htg hp', fun h => absurd (by simp [Present]) h⟩⟩
  | .vec t, L, E, tag, v, hwf, hc => by
    simp only [Ty.wf, Bool.and_eq_true] at hwf
    obtain ⟨⟨⟨htg, hpl⟩, hwf'⟩, hfo⟩ := hwf
    have hfo' : Ty.follow t L E tag = .any := by simpa using hfo
    obtain ⟨tg, rfl⟩ : ∃ tg, tag = some tg := by
      cases tag with
      | none => simp at htg
      | some tg => exact ⟨tg, rfl⟩
    cases v <;> simp only [Ty.canon] at hc
    rename_i vs
    obtain ⟨es, rfl, hes⟩ := exists_pairs vs fun a ha => Ty.rt t L E (some tg) a hwf' (hc a ha)
    exact ⟨_, vec_fieldRT t hpl L E tg hfo' es hes fun e he =>
      plain_canon_present t hpl L E (some tg) e.1 (hc e.1 (List.mem_map_of_mem he))⟩
  | .struct fs, L, E, tag, v, hwf, hc => by
    simp only [Ty.wf, Bool.and_eq_true] at hwf
    obtain ⟨⟨htg, hL⟩, hfw⟩ := hwf
    cases v <;> simp only [Ty.canon] at hc
    rename_i vs
    obtain ⟨hfc, hlen⟩ := hc
    obtain ⟨D, hD, hDf, hDv, hDt, _⟩ := fields_rt fs vs hfw hfc
    obtain ⟨henc, hdec, hsuf⟩ := decomp_rt D hD
    rw [hDf, hDv] at henc hdec hsuf
    exact struct_field_of_payload fs vs D.bytes henc hdec
      (fun htr x => hsuf (hDt htr).1 (hDt htr).2.1 (hDt htr).2.2 x) L E tag htg hL (hlen D.bytes henc)
/-- **Every well-formed field list splits** into positional fields (each read back in front of what follows it
in this encoding), at most one trailing field that takes everything, and tagged fields with distinct numbers —
each of them round-tripping. -/
theorem fields_rt : ∀ (fs : List Field) (vs : List Val), fieldsWf fs = true → fieldsCanon fs vs →
    ∃ D : Decomp, D.OK ∧ D.fields = fs ∧ D.vals = vs ∧
      (fieldsTransparent fs = true → D.g = none ∧ D.qs = [] ∧ ∀ p ∈ D.ps, p.OK) ∧
      (posPresent fs vs → ∀ p ∈ D.ps, p.OK)
  | [], vs, _, hc => by
    simp only [fieldsCanon] at hc; subst hc
    exact ⟨⟨[], none, []⟩, ⟨trivial, by simp [Decomp.gl], fun _ => rfl, by simp, by simp⟩, rfl, rfl,
      fun _ => ⟨rfl, rfl, by simp⟩, fun _ => by simp⟩
  | .mk name tag L E ty :: fs, [], _, hc => by simp only [fieldsCanon] at hc
  | .mk name tag L E ty :: fs, v :: vs', hwf, hc => by
    simp only [fieldsWf, Bool.and_eq_true] at hwf
    obtain ⟨⟨hty, hfs⟩, hcond⟩ := hwf
    simp only [fieldsCanon] at hc
    obtain ⟨hcv, hcf, habs⟩ := hc
    obtain ⟨bytes, hrt⟩ := Ty.rt ty L E tag v hty hcv
    obtain ⟨D', hD', hf', hv', ht', hpp'⟩ := fields_rt fs vs' hfs hcf
    cases tag with
    | none =>
      simp only [Bool.or_eq_true, beq_iff_eq] at hcond
      by_cases hgreedy : Present v ∧ Ty.follow ty L E none ≠ .any
      · -- the one field that takes everything: it is the last
        have hfs0 : fs = [] := by
          rcases hcond with h | h
          · exact absurd h hgreedy.2
          · simpa using h
        subst hfs0
        simp only [fieldsCanon] at hcf
        subst hcf
        refine ⟨⟨[], some ⟨.mk name none L E ty, v, bytes⟩, []⟩, ⟨trivial, ?_, fun _ => rfl, by simp, by simp⟩, rfl, rfl, ?_, fun _ => by simp⟩
        · intro p hp
          simp only [Decomp.gl, List.mem_singleton] at hp
          subst hp
          have := hrt.de hgreedy.1 [] (follow_holds_nil _)
          rw [List.append_nil] at this
          exact ⟨rfl, hrt.ser, this⟩
        · intro htr
          simp only [fieldsTransparent, Bool.and_eq_true, beq_iff_eq] at htr
          exact absurd htr.1.1.2 hgreedy.2
      · -- a positional field in front of the rest: present and self-delimiting, or an absent optional (nothing
        -- written) that its decoder reads as absent in front of exactly what follows here
        have hpok : Present v → PF.OK ⟨.mk name none L E ty, v, bytes⟩ := fun hp =>
          ⟨rfl, hrt.ser, fun x => hrt.de hp x (by rw [Decidable.not_not.mp (fun h => hgreedy ⟨hp, h⟩)]; trivial)⟩
        have hhead : Ty.de ty L E none (bytes ++ D'.bytes) = .ok (v, D'.bytes) := by
          by_cases hp : Present v
          · exact (hpok hp).2.2 _
          · obtain ⟨hb, _, _⟩ := hrt.absent hp
            obtain ⟨henc', _, _⟩ := decomp_rt D' hD'
            rw [hf', hv'] at henc'
            have hvn := absent_pos_is_none ty L E v hty hcv hp
            rw [hb, hvn]
            exact habs rfl hvn D'.bytes henc'
        refine ⟨⟨⟨.mk name none L E ty, v, bytes⟩ :: D'.ps, D'.g, D'.qs⟩,
          ⟨⟨⟨rfl, hrt.ser⟩, hhead, hD'.ps⟩, hD'.g, hD'.gq, hD'.qs, hD'.nd⟩, by rw [← hf']; rfl, by rw [← hv']; rfl, ?_, ?_⟩
        · intro htr
          simp only [fieldsTransparent, Bool.and_eq_true] at htr
          obtain ⟨h1, h2, h3⟩ := ht' htr.2
          exact ⟨h1, h2, List.forall_mem_cons.mpr ⟨hpok (plain_canon_present ty htr.1.2 L E none v hcv), h3⟩⟩
        · intro hpp
          exact List.forall_mem_cons.mpr ⟨hpok (hpp.1 rfl), hpp' hpp.2⟩
    | some t =>
      simp only [Bool.and_eq_true, List.all_eq_true, bne_iff_ne, ne_eq] at hcond
      obtain ⟨hall, hne⟩ := hcond
      obtain ⟨hps0, hg0⟩ := allTagged_decomp D' hD' (by rw [hf']; intro f hf; exact (hall f hf).1)
      have hfsq : fs = D'.qs.map (·.f) := by
        rw [← hf']; simp [Decomp.fields, Decomp.gl, hps0, hg0]
      have hvsq : vs' = D'.qs.map (·.v) := by
        rw [← hv']; simp [Decomp.vals, Decomp.gl, hps0, hg0]
      refine ⟨⟨[], none, _ :: D'.qs⟩, ⟨trivial, by simp [Decomp.gl], fun h => absurd rfl h,
        List.forall_mem_cons.mpr ⟨TF.ok_of_fieldRT name t L E ty v bytes hrt hne, hD'.qs⟩, ?_⟩, ?_, ?_, ?_, fun _ => by simp⟩
      · simp only [List.map_cons, List.nodup_cons]
        refine ⟨?_, hD'.nd⟩
        intro hm
        simp only [List.mem_map] at hm
        obtain ⟨r, hr, hrt'⟩ := hm
        have hrf : r.f ∈ fs := by rw [hfsq]; exact List.mem_map_of_mem hr
        have h1 := (hall r.f hrf).2
        rw [(hD'.qs r hr).1, hrt'] at h1
        exact h1 rfl
      · simp only [Decomp.fields, Decomp.gl, List.map_nil, List.nil_append, List.map_cons]
        rw [hfsq]
      · simp only [Decomp.vals, Decomp.gl, List.map_nil, List.nil_append, List.map_cons]
        rw [hvsq]
      · intro htr
        simp [fieldsTransparent] at htr
end

/-- **C01, generic**: for every well-formed packet type and every canonical value,
`zvt_deserialize (zvt_serialize v) = (v, [])`; for command types (with control field) whatever follows the
packet is handed back untouched. -/
theorem packet_roundtrip (s : StructDef) (hwf : structWf s = true) (v : Val) (hc : s.canon v) :
    ∃ bytes, encodeCmd s v = .ok bytes ∧ decodeCmd s bytes = .ok (v, []) ∧
      (s.ctrl.isSome = true → ∀ x, decodeCmd s (bytes ++ x) = .ok (v, x)) := by
  simp only [structWf, Bool.and_eq_true] at hwf
  obtain ⟨hfw, hctrl⟩ := hwf
  obtain ⟨vs, rfl, hfc, hlen⟩ := hc
  cases hcs : s.ctrl with
  | some c =>
    obtain ⟨D, hD, hDf, hDv, _⟩ := fields_rt s.fields vs hfw hfc
    obtain ⟨henc, hdec, _⟩ := decomp_rt D hD
    rw [hDf, hDv] at henc hdec
    rw [hcs] at hctrl
    simp only [Bool.and_eq_true, decide_eq_true_eq] at hctrl
    obtain ⟨bytes, hs, hd⟩ := command_of_payload s c hcs hctrl.1 hctrl.2 vs D.bytes henc hdec (hlen _ henc)
    exact ⟨bytes, hs, by simpa using hd [], fun _ x => hd x⟩
  | none =>
    -- without control field the packet is the field `(.struct s.fields)` under `Empty`, untagged
    obtain ⟨bytes, hrt⟩ := Ty.rt (.struct s.fields) .empty .dflt none (.struct vs) (by simpa [Ty.wf, tagOK, structLenOK] using hfw)
      (by simp only [Ty.canon]; exact ⟨hfc, fun _ _ => trivial⟩)
    refine ⟨bytes, by simp only [encodeCmd, hcs, encodePlain]; exact hrt.ser, ?_, fun h => by simp at h⟩
    simpa [decodeCmd, hcs, decodePlain] using hrt.de (by simp [Present]) [] (follow_holds_nil _)

end Zvt
