/-
  Utf8DateTime.lean — the two leaf encodings of C01 that RoundTrip.lean does not cover: UTF-8 text (`utf8_roundtrip`) and
  date-time (`dt_roundtrip`).
-/
import ZvtVerif.Proofs.RoundTrip
namespace Zvt

/-- a Unicode scalar value (what a Rust `char` can hold). -/
def validScalar (c : Nat) : Prop := c < 0x110000 ∧ ¬ (0xd800 ≤ c ∧ c < 0xe000)

theorem isCont_byte (x : Nat) (h : x < 64) : isCont (byte (0x80 + x)) = true ∧ (byte (0x80 + x)).toNat - 0x80 = x := by
  rw [isCont, byte_toNat_lt (by omega)]
  exact ⟨by simp; omega, by omega⟩

/-! One lemma per branch of `utf8DecodeFuel`, on the bytes the encoder writes for the base-64 digits `x y z u`
of a character; `utf8_step` only has to name the digits. They open the definition with its defining equation
(`eq_def`) and let `dsimp only` take the `match`: `rw [utf8DecodeFuel]` would first derive one equation for every
branch of the definition, which costs as much again as these four lemmas together. -/

theorem utf8Dec_1 (f x : Nat) (r : Bytes) (hx : x < 0x80) :
    utf8DecodeFuel (f + 1) (byte x :: r) = (utf8DecodeFuel f r).map (x :: ·) := by
  rw [utf8DecodeFuel.eq_def]
  dsimp only
  rw [byte_toNat_lt (show x < 256 by omega), if_pos hx]

theorem utf8Dec_2 (f x y : Nat) (r : Bytes) (hx : 2 ≤ x ∧ x < 32) (hy : y < 64) :
    utf8DecodeFuel (f + 1) (byte (0xc0 + x) :: byte (0x80 + y) :: r) = (utf8DecodeFuel f r).map ((x * 64 + y) :: ·) := by
  have ⟨k1, e1⟩ := isCont_byte y hy
  rw [utf8DecodeFuel.eq_def]
  dsimp only
  rw [byte_toNat_lt (show 0xc0 + x < 256 by omega), if_neg (show ¬ 0xc0 + x < 0x80 by omega),
    if_pos (show 0xc2 ≤ 0xc0 + x ∧ 0xc0 + x < 0xe0 by omega), if_pos k1, e1, Nat.add_sub_cancel_left]

theorem utf8Dec_3 (f x y z : Nat) (r : Bytes) (hx : x < 16) (hy : y < 64) (hz : z < 64)
    (hc : 0x800 ≤ x * 4096 + y * 64 + z ∧ ¬ (0xd800 ≤ x * 4096 + y * 64 + z ∧ x * 4096 + y * 64 + z < 0xe000)) :
    utf8DecodeFuel (f + 1) (byte (0xe0 + x) :: byte (0x80 + y) :: byte (0x80 + z) :: r) =
      (utf8DecodeFuel f r).map ((x * 4096 + y * 64 + z) :: ·) := by
  have ⟨k1, e1⟩ := isCont_byte y hy
  have ⟨k2, e2⟩ := isCont_byte z hz
  rw [utf8DecodeFuel.eq_def]
  dsimp only
  rw [byte_toNat_lt (show 0xe0 + x < 256 by omega), if_neg (show ¬ 0xe0 + x < 0x80 by omega),
    if_neg (show ¬ (0xc2 ≤ 0xe0 + x ∧ 0xe0 + x < 0xe0) by omega), if_pos (show 0xe0 ≤ 0xe0 + x ∧ 0xe0 + x < 0xf0 by omega),
    e1, e2, Nat.add_sub_cancel_left, if_pos ⟨k1, k2, hc⟩]

theorem utf8Dec_4 (f x y z u : Nat) (r : Bytes) (hx : x < 5) (hy : y < 64) (hz : z < 64) (hu : u < 64)
    (hc : 0x10000 ≤ x * 262144 + y * 4096 + z * 64 + u ∧ x * 262144 + y * 4096 + z * 64 + u < 0x110000) :
    utf8DecodeFuel (f + 1) (byte (0xf0 + x) :: byte (0x80 + y) :: byte (0x80 + z) :: byte (0x80 + u) :: r) =
      (utf8DecodeFuel f r).map ((x * 262144 + y * 4096 + z * 64 + u) :: ·) := by
  have ⟨k1, e1⟩ := isCont_byte y hy
  have ⟨k2, e2⟩ := isCont_byte z hz
  have ⟨k3, e3⟩ := isCont_byte u hu
  rw [utf8DecodeFuel.eq_def]
  dsimp only
  rw [byte_toNat_lt (show 0xf0 + x < 256 by omega), if_neg (show ¬ 0xf0 + x < 0x80 by omega),
    if_neg (show ¬ (0xc2 ≤ 0xf0 + x ∧ 0xf0 + x < 0xe0) by omega), if_neg (show ¬ (0xe0 ≤ 0xf0 + x ∧ 0xf0 + x < 0xf0) by omega),
    if_pos (show 0xf0 ≤ 0xf0 + x ∧ 0xf0 + x < 0xf5 by omega), e1, e2, e3, Nat.add_sub_cancel_left, if_pos ⟨k1, k2, k3, hc⟩]

theorem utf8_step (c : Nat) (hv : validScalar c) (f : Nat) (rest : Bytes) :
    utf8DecodeFuel (f + 1) (utf8EncodeChar c ++ rest) = (utf8DecodeFuel f rest).map (c :: ·) := by
  have m := fun n => Nat.mod_lt n (show 0 < 64 by decide)
  unfold utf8EncodeChar
  split
  · exact utf8Dec_1 f c rest ‹_›
  split
  · have := utf8Dec_2 f (c / 64) (c % 64) rest (by omega) (m _)
    rwa [Nat.div_add_mod' c 64] at this
  split
  · have hx : c / 4096 < 16 := by omega
    have h8 : 0x800 ≤ c := by omega
    have hc : c / 4096 * 4096 + c / 64 % 64 * 64 + c % 64 = c := digits_3 64 c
    have := utf8Dec_3 f (c / 4096) (c / 64 % 64) (c % 64) rest hx (m _) (m _) (by rw [hc]; exact ⟨h8, hv.2⟩)
    rwa [hc] at this
  · have hx : c / 262144 < 5 := by have := hv.1; omega
    have h16 : 0x10000 ≤ c := by omega
    have hc : c / 262144 * 262144 + c / 4096 % 64 * 4096 + c / 64 % 64 * 64 + c % 64 = c := digits_4 64 c
    have := utf8Dec_4 f (c / 262144) (c / 4096 % 64) (c / 64 % 64) (c % 64) rest hx (m _) (m _) (m _)
      (by rw [hc]; exact ⟨h16, hv.1⟩)
    rwa [hc] at this

theorem utf8Encode_cons (c : Nat) (cs : List Nat) : utf8Encode (c :: cs) = utf8EncodeChar c ++ utf8Encode cs :=
  List.flatMap_cons

theorem utf8EncodeChar_length_pos (c : Nat) : 1 ≤ (utf8EncodeChar c).length := by
  unfold utf8EncodeChar; split <;> (try split) <;> (try split) <;> simp

theorem utf8DecodeFuel_encode : ∀ (cs : List Nat) (f : Nat), (∀ c ∈ cs, validScalar c) → cs.length < f →
    utf8DecodeFuel f (utf8Encode cs) = some cs := by
  intro cs
  induction cs with
  | nil =>
    intro f _ hf
    cases f with
    | zero => omega
    | succ f => rfl
  | cons c cs ih =>
    intro f hv hf
    cases f with
    | zero => omega
    | succ f =>
      rw [utf8Encode_cons, utf8_step c (hv c (by simp)) f, ih f (fun x hx => hv x (by simp [hx])) (by simp at hf; omega)]
      rfl

theorem utf8Encode_length_ge (cs : List Nat) : cs.length ≤ (utf8Encode cs).length := by
  induction cs with
  | nil => simp [utf8Encode]
  | cons c cs ih =>
    rw [utf8Encode_cons, List.length_append, List.length_cons]
    have := utf8EncodeChar_length_pos c
    omega

theorem utf8_roundtrip (cs : List Nat) (hv : ∀ c ∈ cs, validScalar c) : utf8Decode (utf8Encode cs) = some cs := by
  unfold utf8Decode
  exact utf8DecodeFuel_encode cs _ hv (by have := utf8Encode_length_ge cs; omega)

/-- a calendar date with a four-digit year and a time of day (`date = y·10000 + m·100 + d`, `time = h·10000 + mi·100 + s`). -/
def validDt (d t : Nat) : Prop :=
  d / 10000 ≤ 9999 ∧ validDate (d / 10000) (d % 10000 / 100) (d % 100) = true ∧
    validTime (t / 10000) (t % 10000 / 100) (t % 100) = true

theorem daysInMonth_le (y m : Nat) : daysInMonth y m ≤ 31 := by
  unfold daysInMonth; split
  · split <;> omega
  · split
    · omega
    · split <;> omega

/-- a valid date has at most eight decimal digits, a valid time at most six: what the fixed widths 4 and 3 of the
two BCD fields rest on. -/
theorem validDt_lt (d t : Nat) (h : validDt d t) : d < 100 ^ 4 ∧ t < 100 ^ 3 := by
  obtain ⟨hy, hdate, htime⟩ := h
  simp only [validDate, validTime, decide_eq_true_eq] at hdate htime
  have := daysInMonth_le (d / 10000) (d % 10000 / 100)
  constructor <;> omega

theorem padLeft_length (n : Nat) (b : Bytes) (h : b.length ≤ n) : (padLeft n b).length = n := by
  simp [padLeft]; omega

theorem tagged_tlv_bcd (tg w N k : Nat) (hrep : tagRepresentable tg) (hk : k < 256 ^ w) (hN : k < 100 ^ N) (hN' : N ≤ 65535) (x : Bytes) :
    ∃ bytes, serTagged tagEncDefault .tlv (some tg) (.ok (padLeft N (bcdEncK k))) = .ok bytes ∧
      deserTagged tagDecDefault .tlv (bcdDec w) (some tg) (bytes ++ x) = .ok (k, x) ∧
      (∃ r, tagDecDefault (bytes ++ x) = .ok (tg, r)) ∧ bytes ≠ [] := by
  have hlen : (bcdEncK k).length ≤ N := by rw [bcdEncK_eq]; exact bcdEnc_length_le N k hN
  have hdec : bcdDec w (seenPayload .tlv (padLeft N (bcdEncK k))) = .ok (k, []) := by
    simp only [seenPayload, padLeft]
    rw [C17.bcd_leading_zeros, bcdEncK_eq]; exact bcdDec_bcdEnc w k hk
  obtain ⟨bytes, hs, hd, pre, _, hb⟩ := deserTagged_serTagged .tlv (some tg) (fun t ht => by cases ht; exact hrep)
    (padLeft N (bcdEncK k)) x (by simp only [LenFits]; rw [padLeft_length N _ hlen]; exact hN') (bcdDec w) k hdec
  subst hb
  exact ⟨_, hs, hd, (tagPrefix_facts tg hrep _).2 x, (tagPrefix_facts tg hrep _).1⟩

/-- **Date-time round trip**: `1F0E 04 YYYYMMDD 1F0F 03 HHMMSS` is read back as the same date and time. -/
theorem dt_roundtrip (d t : Nat) (h : validDt d t) :
    ∃ p, dtEncode d t = .ok p ∧ dtDecode p = .ok (.dt d t, []) := by
  have ⟨hd8, ht6⟩ := validDt_lt d t h
  obtain ⟨hy, hdate, htime⟩ := h
  obtain ⟨b2, hs2, hd2, ⟨r2, htg2⟩, hne2⟩ := tagged_tlv_bcd 0x1f0f 4 3 t (by decide) (by omega) ht6 (by omega) []
  obtain ⟨b1, hs1, hd1, ⟨r1, htg1⟩, hne1⟩ := tagged_tlv_bcd 0x1f0e 8 4 d (by decide) (by omega) hd8 (by omega) b2
  refine ⟨b1 ++ b2, by simp only [dtEncode, hs1, hs2], ?_⟩
  simp only [List.append_nil] at hd2 htg2
  have hloop : ∀ f, dtLoop (f + 3) (b1 ++ b2) {} = .ok ({ date := some d, time := some t }, []) := by
    intro f
    have e1 : (b1 ++ b2).isEmpty = false := List.isEmpty_eq_false_iff.mpr (List.append_ne_nil_of_left_ne_nil hne1 b2)
    have e2 : b2.isEmpty = false := List.isEmpty_eq_false_iff.mpr hne2
    rw [show f + 3 = (f + 2) + 1 from rfl]
    unfold dtLoop
    simp only [e1, Bool.false_eq_true, if_false, htg1, if_true, Option.isSome_none, hd1]
    rw [show f + 2 = (f + 1) + 1 from rfl]
    unfold dtLoop
    simp only [e2, Bool.false_eq_true, if_false, htg2, Nat.reduceEqDiff, if_true, Option.isSome_none, hd2]
    unfold dtLoop
    simp
  have hl : 2 ≤ (b1 ++ b2).length := by
    have := List.length_pos_iff.mpr hne1
    have := List.length_pos_iff.mpr hne2
    rw [List.length_append]; omega
  unfold dtDecode
  rw [show (b1 ++ b2).length + 1 = ((b1 ++ b2).length - 2) + 3 from by omega, hloop]
  simp only
  have hy31 : d / 10000 < 2 ^ 31 := by omega
  simp [hy31, hdate, htime]

end Zvt
