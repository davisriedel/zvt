/-
  RefEq.lean — the model of the Rust encoder (`Ty.ser`, `encFields`, `encodeCmd`: one definition per Rust
  function) produces, for every well-formed layout and every canonical value, exactly the bytes the
  reference encoder of the format description (`Spec/RefCodec.lean`) assembles from the layout table.
-/
import ZvtVerif.Spec.RefCodec
import ZvtVerif.Proofs.Canon
namespace Zvt

theorem Ref.digitsFuel_eq : ∀ (f g n : Nat), n ≤ f → n ≤ g → Ref.digitsFuel f n = Ref.digitsFuel g n := by
  intro f
  induction f with
  | zero =>
    intro g n hf _
    have : n = 0 := by omega
    subst this
    cases g <;> simp [Ref.digitsFuel]
  | succ f ih =>
    intro g n hf hg
    cases g with
    | zero =>
      have : n = 0 := by omega
      subst this; simp [Ref.digitsFuel]
    | succ g =>
      simp only [Ref.digitsFuel]
      split
      · rfl
      · rw [ih g (n / 10) (by omega) (by omega)]

theorem Ref.digits_zero : Ref.digits 0 = [] := by simp [Ref.digits, Ref.digitsFuel]

theorem Ref.digits_pos (n : Nat) (h : n ≠ 0) : Ref.digits n = Ref.digits (n / 10) ++ [n % 10] := by
  unfold Ref.digits
  obtain ⟨m, rfl⟩ : ∃ m, n = m + 1 := ⟨n - 1, by omega⟩
  simp only [Ref.digitsFuel, h, if_false]
  rw [Ref.digitsFuel_eq m ((m + 1) / 10) ((m + 1) / 10) (by omega) (Nat.le_refl _)]

theorem Ref.pairs_append_even : ∀ (xs : List Nat) (a b : Nat), xs.length % 2 = 0 →
    Ref.pairs (xs ++ [a, b]) = Ref.pairs xs ++ [byte (a * 16 + b)]
  | [], a, b, _ => by simp [Ref.pairs]
  | [x], a, b, h => by simp at h
  | x :: y :: r, a, b, h => by
    simp only [List.cons_append, Ref.pairs]
    rw [Ref.pairs_append_even r a b (by simp at h; omega)]

theorem Ref.evenPad_even (d : List Nat) : (Ref.evenPad d).length % 2 = 0 := by
  unfold Ref.evenPad
  split
  · simp only [List.length_cons]; omega
  · omega

theorem Ref.evenPad_append2 (d : List Nat) (a b : Nat) : Ref.evenPad (d ++ [a, b]) = Ref.evenPad d ++ [a, b] := by
  unfold Ref.evenPad
  have : (d ++ [a, b]).length % 2 = d.length % 2 := by
    simp only [List.length_append, List.length_cons, List.length_nil]; omega
  rw [this]; split
  · simp
  · rfl

/-- the reference BCD (decimal digit string, two digits per byte) is the `bcd_integrals!` encoder. -/
theorem Ref.bcd_eq (n : Nat) : Ref.bcd n = bcdEnc n := by
  induction n using Nat.strongRecOn with
  | _ n ih =>
    by_cases h0 : n = 0
    · subst h0; simp [Ref.bcd, Ref.digits_zero, Ref.evenPad, Ref.pairs, bcdEnc_zero]
    · rw [bcdEnc_pos n h0]
      by_cases h10 : n / 10 = 0
      · have h100 : n / 100 = 0 := by omega
        rw [h100, bcdEnc_zero]
        unfold Ref.bcd
        rw [Ref.digits_pos n h0, h10, Ref.digits_zero]
        simp [Ref.evenPad, Ref.pairs]
      · have := ih (n / 100) (by omega)
        unfold Ref.bcd at this ⊢
        rw [Ref.digits_pos n h0, Ref.digits_pos (n / 10) h10]
        have e : n / 10 / 10 = n / 100 := by omega
        rw [e, List.append_assoc]
        simp only [List.singleton_append]
        rw [Ref.evenPad_append2, Ref.pairs_append_even _ _ _ (Ref.evenPad_even _), this]

theorem Ref.bcd_eq_bcdEncK (n : Nat) : Ref.bcd n = bcdEncK n := by rw [bcdEncK_eq, Ref.bcd_eq]

theorem Ref.rjust_snoc (k : Nat) (xs : List Nat) (d : Nat) : Ref.rjust (k + 1) (xs ++ [d]) = Ref.rjust k xs ++ [d] := by
  unfold Ref.rjust
  have : k + 1 - (xs ++ [d]).length = k - xs.length := by simp
  rw [this, List.append_assoc]

theorem Ref.llv_eq : ∀ (k n : Nat), n < 10 ^ k →
    (Ref.rjust k (Ref.digits n)).map (fun d => byte (0xf0 + d)) = (llvSerRev k n).reverse := by
  intro k
  induction k with
  | zero =>
    intro n hn
    have : n = 0 := by simpa using hn
    subst this
    simp [llvSerRev, Ref.digits_zero, Ref.rjust]
  | succ k ih =>
    intro n hn
    have hk : n / 10 < 10 ^ k := by rw [Nat.pow_succ] at hn; omega
    simp only [llvSerRev, List.reverse_cons]
    by_cases h0 : n = 0
    · subst h0
      have := ih 0 (by simpa using hk)
      simp only [Ref.digits_zero] at this ⊢
      rw [show (0 : Nat) / 10 = 0 from rfl, ← this]
      simp [Ref.rjust, List.replicate_succ']
    · rw [Ref.digits_pos n h0, Ref.rjust_snoc, List.map_append, ih (n / 10) hk]
      simp

theorem Ref.intLE_eq : ∀ (w n : Nat), Ref.intLE w n = leBytes w n := by
  intro w
  induction w with
  | zero => intro n; simp [Ref.intLE, leBytes]
  | succ w ih =>
    intro n
    have := ih (n / 256)
    unfold Ref.intLE at this ⊢
    rw [List.range_succ_eq_map, List.map_cons, List.map_map, leBytes, ← this]
    congr 1
    · simp
    · apply List.map_congr_left
      intro i _
      simp only [Function.comp, Nat.pow_succ]
      rw [Nat.div_div_eq_div_mul, Nat.mul_comm]

theorem Ref.intBE_eq (w n : Nat) : Ref.intBE w n = beBytes w n := by
  unfold Ref.intBE beBytes
  rw [List.map_reverse]
  have := Ref.intLE_eq w n
  unfold Ref.intLE at this
  rw [this]

theorem Ref.idxIn_findIdx (c : Nat) : ∀ (l : List Nat) (i : Nat),
    idxIn c l i = (l.findIdx? (· == c)).map (· + i) := by
  intro l
  induction l with
  | nil => intro i; simp [idxIn]
  | cons x xs ih =>
    intro i
    simp only [idxIn, List.findIdx?_cons]
    by_cases h : x = c
    · simp [h]
    · simp only [h, if_false, beq_iff_eq, ih (i + 1)]
      cases xs.findIdx? (· == c) <;> simp; omega

theorem Ref.cpChar_eq (c : Nat) : Ref.cpChar c = cpEncode c := by
  unfold Ref.cpChar cpEncode
  split
  · rfl
  · rw [Ref.idxIn_findIdx]
    cases cp437High.findIdx? (· == c) <;> simp

theorem Ref.cpText_eq : ∀ (cs : List Nat) (b : Bytes), cpEncodeStr cs = .ok b → Ref.cpText cs = some b := by
  intro cs
  induction cs with
  | nil => intro b h; cases h; rfl
  | cons c cs ih =>
    intro b h
    simp only [cpEncodeStr] at h
    split at h
    · cases h
    · next x hc =>
      split at h
      · cases h
      · next bs hr => cases h; simp only [Ref.cpText, Ref.cpChar_eq, hc, ih bs hr]

theorem Ref.hexNibble_eq (c : Nat) (h : isLowerHex c = true) : Ref.hexNibble c = hexVal c := by
  simp only [isLowerHex, decide_eq_true_eq] at h
  unfold Ref.hexNibble hexVal
  rcases h with h | h
  · simp [h]
  · have : ¬ (48 ≤ c ∧ c ≤ 57) := by omega
    simp [this, h]

theorem Ref.hexText_eq : ∀ (cs : List Nat) (b : Bytes), (∀ c ∈ cs, isLowerHex c = true) →
    hexEncodeStr cs = .ok b → Ref.hexText cs = some b
  | [], b, _, h => by cases h; rfl
  | [_], b, _, h => by cases h
  | x :: y :: cs, b, hl, h => by
    simp only [hexEncodeStr] at h
    split at h
    · next a c hvx hvy =>
      split at h
      · cases h
      · next bs hr =>
        cases h
        simp only [Ref.hexText, Ref.hexNibble_eq x (hl x (by simp)), Ref.hexNibble_eq y (hl y (by simp)), hvx, hvy,
          Ref.hexText_eq cs bs (fun c hc => hl c (by simp [hc])) hr]
    · cases h

theorem Ref.tagBytes_eq (t : Nat) (h : tagRepresentable t) : Ref.tagBytes t = some (tagEncDefault t) := by
  unfold Ref.tagBytes tagEncDefault
  rcases h with ⟨h1, h2, h3⟩ | ⟨h1, h2⟩
  · rw [if_pos h1, if_neg (by omega), if_neg (by omega)]
  · rw [if_neg (by omega), if_pos h2, if_pos h2, beBytes_two t h1]

/-- the reference length prefix IS the serialiser's, read as a partial function, wherever the length fits the style. -/
theorem Ref.lengthPrefix_toOption (L : LenKind) (n : Nat) (h : LenOK L n) :
    Ref.lengthPrefix L n = (L.ser n).toOption := by
  cases L with
  | empty | temperature => rfl
  | unknown s => exact h.elim
  | fixed N => simp only [Ref.lengthPrefix, LenKind.ser, if_pos (show n ≤ N from h)]; rfl
  | llv k => simp only [Ref.lengthPrefix, LenKind.ser, if_pos (show n < 10 ^ k from h), Ref.llv_eq k n h]; rfl
  | tlv =>
    have h : n ≤ 65535 := h
    rw [tlv_ser_eq n h]
    simp only [Ref.lengthPrefix, Ref.berLen]
    split
    · rfl
    split
    · rfl
    · rw [if_pos (by omega)]; rfl
  | adpu =>
    have h : n ≤ 65535 := h
    rw [adpu_ser_eq n h]
    simp only [Ref.lengthPrefix]
    split
    · rfl
    · rw [if_pos (by omega)]; rfl

theorem Ref.lengthPrefix_eq (L : LenKind) (n : Nat) (l : Bytes) (hs : L.ser n = .ok l) (hfit : LenOK L n) :
    Ref.lengthPrefix L n = some l := by
  rw [Ref.lengthPrefix_toOption L n hfit, hs]; rfl

theorem Ref.dt_eq (d t : Nat) (h : validDt d t) (p : Bytes) (hp : dtEncode d t = .ok p) :
    Ref.leaf .dflt .dateTime (.dt d t) = some p := by
  have ⟨hd8, ht6⟩ := validDt_lt d t h
  have l1 : (bcdEncK d).length ≤ 4 := by rw [bcdEncK_eq]; exact bcdEnc_length_le 4 d hd8
  have l2 : (bcdEncK t).length ≤ 3 := by rw [bcdEncK_eq]; exact bcdEnc_length_le 3 t ht6
  have p1 := padLeft_length 4 _ l1
  have p2 := padLeft_length 3 _ l2
  simp only [dtEncode, serTagged, p1, p2, LenKind.ser, tagPrefix, tagEncDefault] at hp
  simp only [Ref.leaf, Ref.bcd_eq_bcdEncK, Ref.rjustBytes]
  simp only [padLeft] at hp
  rw [← Except.ok.inj hp]
  simp [beBytes, leBytes, byte]

/-- the data bytes of every canonical leaf value: model of the Rust encoder = reference encoder. -/
theorem Ref.leaf_eq (L : LenKind) (E : Enc) (t : Ty) (v : Val) (hw : leafLenOK L E t = true) (hc : leafCanon L E t v) (p : Bytes)
    (hp : leafEnc E t v = .ok p) : Ref.leaf E t v = some p := by
  obtain ⟨p', hp', _, hm⟩ := hc
  rw [hp] at hp'
  cases Except.ok.inj hp'
  -- `split` follows the nine rows of `leafCanon` (casing on `E`, `t`, `v` makes 504 goals and is slow to check)
  split at hm <;> simp only [leafEnc] at hp
  · simp only [Ref.leaf, hm, if_true, Ref.intLE_eq]; rw [← Except.ok.inj hp] -- dflt, int
  · simp only [Ref.leaf, hm, if_true, Ref.intBE_eq]; rw [← Except.ok.inj hp] -- bigEndian, int
  · simp only [Ref.leaf, hm, if_true, Ref.bcd_eq_bcdEncK]; rw [← Except.ok.inj hp] -- bcd, int
  · next w n => -- prrn, int: only as `Fixed<2>` of a `u64`
    have hw8 : w = 8 := by
      cases L <;> simp [leafLenOK] at hw
      exact hw.2
    subst hw8
    have hlt : n < 256 ^ 8 := by rcases hm with h | h <;> omega
    simp only [Ref.leaf, hlt, if_true]
    rw [← Except.ok.inj hp]
    unfold prrnEnc
    split
    · next h => subst h; simp [leBytes, byte]
    · rw [Ref.bcd_eq_bcdEncK]
  · exact Ref.cpText_eq _ p hp -- dflt, str (CP437)
  · exact Ref.hexText_eq _ p hm.1 hp -- hex, str
  · simp only [Ref.leaf]; rw [← Except.ok.inj hp] -- utf8, str
  · simp only [Ref.leaf]; rw [← Except.ok.inj hp] -- custom, bytes
  · exact Ref.dt_eq _ _ hm p hp -- dflt, dateTime
  · exact hm.elim -- no other row

/-! the reference encoder IS the model's encoder, read as a partial function (`Except.toOption`), wherever the
length fits and the tag is representable -/

theorem Ref.leaf_toOption (L : LenKind) (E : Enc) (t : Ty) (v : Val) (hw : leafLenOK L E t = true)
    (hc : leafCanon L E t v) : Ref.leaf E t v = (leafEnc E t v).toOption := by
  have ⟨p, hp, _⟩ := hc
  rw [Ref.leaf_eq L E t v hw hc p hp, hp]; rfl

theorem Ref.triple_toOption (L : LenKind) (tag : Option Nat) (htag : tagOK tag = true) (r : Res Bytes)
    (hlen : ∀ p, r = .ok p → LenOK L p.length) :
    Ref.triple L tag r.toOption = (serTagged tagEncDefault L tag r).toOption := by
  cases r with
  | error e => rfl
  | ok p =>
    simp only [Except.toOption, Ref.triple, serTagged, Ref.lengthPrefix_toOption L _ (hlen p rfl)]
    cases L.ser p.length with
    | error e => rfl
    | ok l =>
      cases tag with
      | none => simp [tagPrefix]
      | some t => simp [tagPrefix, Ref.tagBytes_eq t (by simpa [tagOK] using htag)]

theorem Ref.concatWith_toOption (f : Val → Res Bytes) (g : Val → Option Bytes) :
    ∀ vs : List Val, (∀ v ∈ vs, g v = (f v).toOption) → Ref.concatWith g vs = (serListWith f vs).toOption
  | [], _ => rfl
  | v :: vs, h => by
    simp only [Ref.concatWith, serListWith, h v (by simp),
      Ref.concatWith_toOption f g vs fun x hx => h x (by simp [hx])]
    cases f v <;> cases serListWith f vs <;> rfl

theorem Ref.leaf_field_toOption (t : Ty) (L : LenKind) (E : Enc) (tag : Option Nat) (v : Val)
    (hwf : leafWf t L E tag = true) (hc : leafCanon L E t v) :
    Ref.triple L tag (Ref.leaf E t v) = (serTagged tagEncDefault L tag (leafEnc E t v)).toOption := by
  simp only [leafWf, Bool.and_eq_true] at hwf
  rw [Ref.leaf_toOption L E t v hwf.2 hc]
  obtain ⟨p, hp, hlen, _⟩ := hc
  exact Ref.triple_toOption L tag hwf.1.2 _ fun q hq => by rw [hp] at hq; cases hq; exact hlen

mutual
theorem Ref.field_toOption : ∀ (t : Ty) (L : LenKind) (E : Enc) (tag : Option Nat) (v : Val),
    Ty.wf t L E tag = true → Ty.canon t L E tag v → Ref.field t L E tag v = (Ty.ser t L E tag v).toOption
  | .opt t, L, E, tag, v, hwf, hc => by
    simp only [Ty.wf, Bool.and_eq_true] at hwf
    cases v <;> simp only [Ty.canon] at hc
    · rfl
    · simp only [Ref.field, Ty.ser]; exact Ref.field_toOption t L E tag _ hwf.2 hc
  | .vec t, L, E, tag, v, hwf, hc => by
    simp only [Ty.wf, Bool.and_eq_true] at hwf
    cases v <;> simp only [Ty.canon] at hc
    simp only [Ref.field, Ty.ser]
    exact Ref.concatWith_toOption _ _ _ fun x hx => Ref.field_toOption t L E tag x hwf.1.2 (hc x hx)
  | .struct fs, L, E, tag, v, hwf, hc => by
    simp only [Ty.wf, Bool.and_eq_true] at hwf
    cases v <;> simp only [Ty.canon] at hc
    simp only [Ref.field, Ty.ser, Ref.body_toOption fs _ hwf.2 hc.1]
    exact Ref.triple_toOption L tag hwf.1.1 _ hc.2
  | .int _, L, E, tag, v, hwf, hc | .str, L, E, tag, v, hwf, hc | .dateTime, L, E, tag, v, hwf, hc => by
    simp only [Ty.wf] at hwf; simp only [Ty.canon] at hc
    exact Ref.leaf_field_toOption _ L E tag v hwf hc
  | .bytes, L, E, tag, v, hwf, hc => by
    simp only [Ty.wf] at hwf; simp only [Ty.canon] at hc
    have ⟨p, hp, hlen, hm⟩ := hc
    -- `hm` is `False` except in the one row of `leafCanon` for `.bytes`
    cases E <;> cases v <;> simp only [] at hm
    case custom.raw x =>
      have hx : x.isEmpty = false := by
        cases x with
        | nil => exact absurd rfl hm.1
        | cons => rfl
      simp only [Ref.field, Ty.ser, hm.1, hx, if_false, Bool.false_eq_true]
      exact Ref.leaf_field_toOption .bytes L .custom tag (.raw x) hwf hc
theorem Ref.body_toOption : ∀ (fs : List Field) (vs : List Val),
    fieldsWf fs = true → fieldsCanon fs vs → Ref.body fs vs = (encFields fs vs).toOption
  | [], _, _, _ => rfl
  | .mk n tag L E ty :: fs, [], _, hc => by simp [fieldsCanon] at hc
  | .mk n tag L E ty :: fs, v :: vs, hwf, hc => by
    simp only [fieldsWf, Bool.and_eq_true] at hwf
    simp only [fieldsCanon] at hc
    simp only [Ref.body, encFields, Ref.field_toOption ty L E tag v hwf.1.1 hc.1, Ref.body_toOption fs vs hwf.1.2 hc.2.1]
    cases Ty.ser ty L E tag v <;> cases encFields fs vs <;> rfl
end

/-- **one field**: for every well-formed field shape and every canonical value, the model of the generated
serialiser writes exactly the bytes of the reference encoder. -/
theorem Ref.field_eq : ∀ (t : Ty) (L : LenKind) (E : Enc) (tag : Option Nat) (v : Val) (b : Bytes),
    Ty.wf t L E tag = true → Ty.canon t L E tag v → Ty.ser t L E tag v = .ok b → Ref.field t L E tag v = some b := by
  intro t L E tag v b hwf hc hs
  rw [Ref.field_toOption t L E tag v hwf hc, hs]; rfl

theorem Ref.body_eq : ∀ (fs : List Field) (vs : List Val) (b : Bytes),
    fieldsWf fs = true → fieldsCanon fs vs → encFields fs vs = .ok b → Ref.body fs vs = some b := by
  intro fs vs b hwf hc hs
  rw [Ref.body_toOption fs vs hwf hc, hs]; rfl

theorem Ref.ctrl_bytes (c0 c1 : Nat) (h0 : c0 < 256) (h1 : c1 < 256) : tagEncBE (c0 * 256 + c1) = [byte c0, byte c1] := by
  rw [tagEncBE, beBytes_two _ (show c0 * 256 + c1 < 65536 by omega),
    show (c0 * 256 + c1) / 256 = c0 by omega, show (c0 * 256 + c1) % 256 = c1 by omega]

theorem Ref.encode_toOption (s : StructDef) (hwf : structWf s = true) (v : Val) (hc : s.canon v) :
    Ref.encode s v = (encodeCmd s v).toOption := by
  simp only [structWf, Bool.and_eq_true] at hwf
  obtain ⟨vs, rfl, hfc, hlen⟩ := hc
  simp only [Ref.encode, Ref.body_toOption s.fields vs hwf.1 hfc]
  cases hcs : s.ctrl with
  | none =>
    simp only [encodeCmd, hcs, encodePlain, Ty.ser, serTagged]
    cases encFields s.fields vs <;> simp [Except.toOption, LenKind.ser, tagPrefix]
  | some c =>
    obtain ⟨c0, c1⟩ := c
    have hctrl := hwf.2
    simp only [hcs, Bool.and_eq_true, decide_eq_true_eq] at hctrl
    simp only [encodeCmd, hcs, serTagged]
    cases hp : encFields s.fields vs with
    | error e => rfl
    | ok p =>
      simp only [Except.toOption, hctrl, and_self, if_true,
        Ref.lengthPrefix_toOption .adpu p.length (by simp only [LenOK, LenFits]; exact hlen p hp)]
      cases LenKind.adpu.ser p.length with
      | error e => rfl
      | ok l => simp [tagPrefix, ctrlTag, Ref.ctrl_bytes c0 c1 hctrl.1 hctrl.2]

/-- **a whole packet**: for every well-formed packet type and every canonical value the model of
`zvt_serialize` and the reference encoder produce the same bytes. -/
theorem Ref.encode_eq (s : StructDef) (hwf : structWf s = true) (v : Val) (hc : s.canon v) (b : Bytes)
    (hs : encodeCmd s v = .ok b) : Ref.encode s v = some b := by
  rw [Ref.encode_toOption s hwf v hc, hs]; rfl

end Zvt
