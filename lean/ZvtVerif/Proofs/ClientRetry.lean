/-
  ClientRetry.lean — one attempt (`runItems`) and the retry loop with its reconnects (`retryLoop`, `runOp`).

  One round of each is described once (`runItems_round`: the attempt ends with the connection cached, or dropped, or
  goes on after a decoded packet; `retryLoop_round`: the loop ends after the (re)connect or after the attempt, or goes
  round again). Read off those: time (`runItems_time`, `retryLoop_time`), which connection is live after an attempt
  (`runItems_frame`), what an attempt writes on it (`runItems_writes`), where an early result comes from
  (`runOp_ret_from_step`), and that the loop keeps every reflexive transitive relation that the clock, a handshake and
  one attempt keep (`retryLoop_lift`).
-/
import ZvtVerif.Proofs.ClientConnect
namespace Zvt

/-- **one round of an attempt**, by what its `stream.next()` returned: the attempt ends here with the connection
cached as the call left it — the stream ended, or the loop body left with a result; with `is_err` set only if it left on
the error item — or with the connection dropped, at the end of the call or (a time-out) at its deadline; or the loop
body took a decoded packet and the attempt goes on. -/
theorem runItems_round {σ ρ : Type} (d : SeqDesc) (timeout : Nat) (step : σ → Item → Step σ ρ) (fuel : Nat) {w : World}
    {c : ConnSt} {st : SeqSt} (s : σ) {o : NextOut} {w1 : World} {c1 : ConnSt} {st1 : SeqSt}
    (hq : seqNext d (w.now + timeout) w c st = (o, w1, c1, st1)) :
    (∃ r b, runItems d timeout step (fuel + 1) w c st s = (r, { w1 with conn := some c1 }, b) ∧
      (r = .cont s ∨ ∃ it, step s it = r) ∧ (b = true → ∃ x, step s .err = .ret x)) ∨
    (∃ s' t, runItems d timeout step (fuel + 1) w c st s = (.cont s', dropConn { w1 with now := t } c1, true) ∧
      (t = w1.now ∨ t = w.now + timeout)) ∨
    (∃ i v s', o = .item (.ok i v) ∧ step s (.ok i v) = .cont s' ∧
      runItems d timeout step (fuel + 1) w c st s = runItems d timeout step fuel w1 c1 st1 s') := by
  simp only [runItems, hq]
  cases o with
  | ended => exact .inl ⟨_, _, rfl, .inl rfl, nofun⟩
  | hang => exact .inr (.inl ⟨_, _, rfl, .inr rfl⟩)
  | item it =>
    cases it with
    | err =>
      simp only
      cases hs : step s .err with
      | ret x => exact .inl ⟨_, _, rfl, .inr ⟨.err, hs⟩, fun _ => ⟨x, rfl⟩⟩
      | cont s' => exact .inr (.inl ⟨s', w1.now, rfl, .inl rfl⟩)
    | ok i v =>
      simp only
      cases hs : step s (.ok i v) with
      | ret x => exact .inl ⟨_, _, rfl, .inr ⟨_, hs⟩, nofun⟩
      | cont s' => exact .inr (.inr ⟨i, v, s', rfl, hs, rfl⟩)

theorem runItems_time {σ ρ : Type} (d : SeqDesc) (timeout : Nat) (step : σ → Item → Step σ ρ) :
    ∀ (fuel : Nat) (w : World) (c : ConnSt) (st : SeqSt) (s : σ),
      (runItems d timeout step fuel w c st s).2.1.gap = w.gap ∧
      (runItems d timeout step fuel w c st s).2.1.now ≤ w.now + fuel * timeout ∧
      (w.gap = 0 → (runItems d timeout step fuel w c st s).2.1.now ≤ w.now + timeout) := by
  intro fuel
  induction fuel with
  | zero => intro w c st s; simp [runItems]
  | succ fuel ih =>
    intro w c st s
    have hn := seqNext_time d (w.now + timeout) w c st
    generalize hq : seqNext d (w.now + timeout) w c st = q at hn
    obtain ⟨o, w1, c1, st1⟩ := q
    simp only at hn
    have hle := hn.le (Nat.le_add_right _ _)
    have hmul : (fuel + 1) * timeout = fuel * timeout + timeout := Nat.succ_mul _ _
    rcases runItems_round d timeout step fuel s hq with ⟨_, _, e, _⟩ | ⟨_, t, e, ht⟩ | ⟨_, _, s', _, _, e⟩ <;> rw [e]
    · exact ⟨hn.gap, by dsimp only; omega, fun hg => by dsimp only; rw [hn.zero hg]; omega⟩
    · simp only [dropConn_now, dropConn_gap]
      rcases ht with rfl | rfl
      · exact ⟨hn.gap, by omega, fun hg => by rw [hn.zero hg]; omega⟩
      · exact ⟨hn.gap, by omega, fun _ => Nat.le_refl _⟩
    · -- the rest of the attempt starts where this call ended: one time-out at most is used up by then, none if `gap = 0`
      have h := ih w1 c1 st1 s'
      refine ⟨h.1.trans hn.gap, by omega, fun hg => ?_⟩
      have h0 := h.2.2 (hn.gap.trans hg)
      rwa [hn.zero hg] at h0

/-- the caller's loop polls the stream again after an error item (`let Ok(r) = r else { continue }`): every loop in
feig.rs has this shape (`*_polls_again` in Properties/C09.lean). It matters: `src.inner = None` is only reached when
the retry stream is polled once more after it has yielded the error. -/
def PollsAgain {σ ρ : Type} (step : σ → Item → Step σ ρ) : Prop := ∀ s, ∃ s', step s .err = .cont s'

/-- what one attempt on the connection `c` leaves behind; `r` is what `runItems` returns, its last component `is_err`. -/
structure AttemptRel {σ ρ : Type} (step : σ → Item → Step σ ρ) (w : World) (c : ConnSt) (r : Step σ ρ × World × Bool) : Prop where
  nlogs : r.2.1.logs.length = w.logs.length
  others : ∀ j, j ≠ c.id → r.2.1.logs[j]? = w.logs[j]?
  live : ∀ c', r.2.1.conn = some c' → c'.id = c.id
  kept : r.2.2 = false → ∃ c', r.2.1.conn = some c'
  dropped : PollsAgain step → r.2.2 = true → r.2.1.conn = none

/-- `hb`: an attempt that failed and still caches its connection is one whose caller left on the error item
(`runItems_round`), so not one that polls again. -/
theorem AttemptRel.keep {σ ρ : Type} {step : σ → Item → Step σ ρ} {w w1 : World} {c c1 : ConnSt} (hf : FrameRel w w1 c c1)
    (o : Step σ ρ) (b : Bool) (hb : b = true → ¬ PollsAgain step) : AttemptRel step w c (o, { w1 with conn := some c1 }, b) :=
  ⟨hf.nlogs, hf.others, fun _ h => (by cases h; exact hf.id), fun _ => ⟨c1, rfl⟩, fun hp h => absurd hp (hb h)⟩

theorem AttemptRel.drop {σ ρ : Type} {step : σ → Item → Step σ ρ} {w w1 w1' : World} {c c1 : ConnSt} (hf : FrameRel w w1 c c1)
    (hl : w1'.logs = w1.logs) (o : Step σ ρ) : AttemptRel step w c (o, dropConn w1' c1, true) :=
  ⟨by rw [dropConn_nlogs, hl]; exact hf.nlogs,
   fun j hj => by rw [dropConn_others _ _ j (by rw [hf.id]; exact hj), hl]; exact hf.others j hj,
   fun _ h => (by rw [dropConn_conn] at h; cases h), fun h => (by cases h), fun _ _ => dropConn_conn _ _⟩

theorem runItems_frame {σ ρ : Type} (d : SeqDesc) (timeout : Nat) (step : σ → Item → Step σ ρ) :
    ∀ (fuel : Nat) (w : World) (c : ConnSt) (st : SeqSt) (s : σ),
      AttemptRel step w c (runItems d timeout step fuel w c st s) := by
  intro fuel
  induction fuel with
  | zero => intro w c st s; exact AttemptRel.keep (FrameRel.refl w c) _ _ (by simp)
  | succ fuel ih =>
    intro w c st s
    have hf := seqNext_frame d (w.now + timeout) w c st
    generalize hq : seqNext d (w.now + timeout) w c st = q at hf
    obtain ⟨o, w1, c1, st1⟩ := q
    simp only at hf
    rcases runItems_round d timeout step fuel s hq with ⟨_, _, e, _, hb⟩ | ⟨_, _, e, _⟩ | ⟨_, _, s', _, _, e⟩ <;> rw [e]
    · exact AttemptRel.keep hf _ _ fun h hp => by obtain ⟨⟨_, h1⟩, _, h2⟩ := hb h, hp s; rw [h1] at h2; cases h2
    · exact AttemptRel.drop hf (by rfl) _
    · have h := ih w1 c1 st1 s'
      exact ⟨h.nlogs.trans hf.nlogs, fun j hj => (h.others j (by rw [hf.id]; exact hj)).trans (hf.others j hj),
        fun c' hc' => (h.live c' hc').trans hf.id, h.kept, h.dropped⟩

/-- what a run of `next()` calls from the state `st` on may write. -/
def AttemptLang (d : SeqDesc) : SeqSt → List Bytes → Prop
  | .start, S => S = [] ∨ ∃ k, S = d.cmd :: List.replicate k ackBytes
  | _, S => ∃ k, S = List.replicate k ackBytes

theorem runItems_writes {σ ρ : Type} (d : SeqDesc) (timeout : Nat) (step : σ → Item → Step σ ρ) :
    ∀ (fuel : Nat) (w : World) (c : ConnSt) (st : SeqSt) (s : σ), c.id < w.logs.length →
      ∃ S, (runItems d timeout step fuel w c st s).2.1.sentOn c.id = w.sentOn c.id ++ S ∧
        AttemptLang d st S := by
  intro fuel
  induction fuel with
  | zero =>
    intro w c st s _
    refine ⟨[], by simp only [runItems, List.append_nil]; rfl, ?_⟩
    cases st <;> first | exact Or.inl rfl | exact ⟨0, rfl⟩
  | succ fuel ih =>
    intro w c st s hl
    obtain ⟨S, hS, hshape⟩ := seqNext_writes d (w.now + timeout) w c st hl
    have hfr := seqNext_frame d (w.now + timeout) w c st
    have hnb := never_back_to_start d (w.now + timeout) w c st
    generalize hq : seqNext d (w.now + timeout) w c st = q at hS hfr hnb hshape
    obtain ⟨o, w1, c1, st1⟩ := q
    simp only at hS hfr hnb hshape
    -- the attempt ends with this call: what it wrote is what the call wrote
    have fin : ∀ wf : World, wf.sentOn c.id = w1.sentOn c.id →
        ∃ S, wf.sentOn c.id = w.sentOn c.id ++ S ∧
          AttemptLang d st S := by
      intro wf hwf
      refine ⟨S, by rw [hwf, hS], ?_⟩
      cases st with
      | start =>
        rcases hshape with ⟨_, h⟩ | ⟨_, h | h⟩
        · exact Or.inr ⟨1, h⟩
        · exact Or.inl h
        · exact Or.inr ⟨0, h⟩
      | looping => rcases hshape with ⟨_, h⟩ | ⟨_, h⟩ <;> first | exact ⟨1, h⟩ | exact ⟨0, h⟩
      | done => exact ⟨0, hshape⟩
    rcases runItems_round d timeout step fuel s hq with ⟨_, _, e, _⟩ | ⟨_, _, e, _⟩ | ⟨i, v, s', rfl, _, e⟩ <;> rw [e]
    · exact fin _ rfl
    · exact fin _ (by rw [← hfr.id, dropConn_sentOn]; rfl)
    · -- the call yielded a packet, so it wrote (the command and) one acknowledgement; the rest are acknowledgements
      obtain ⟨S2, hS2, h2⟩ := ih w1 c1 st1 s' (by rw [hfr.id, hfr.nlogs]; exact hl)
      obtain ⟨k2, hk2⟩ : ∃ k, S2 = List.replicate k ackBytes := by cases st1 <;> first | exact absurd rfl hnb | exact h2
      rw [hfr.id] at hS2
      refine ⟨S ++ S2, by rw [hS2, hS, List.append_assoc], ?_⟩
      subst hk2
      cases st with
      | start =>
        rcases hshape with ⟨_, h⟩ | ⟨h, _⟩
        · exact Or.inr ⟨1 + k2, by rw [h, ← List.replicate_append_replicate]; rfl⟩
        · cases h
      | looping =>
        rcases hshape with ⟨_, h⟩ | ⟨h, _⟩
        · exact ⟨1 + k2, by rw [h, ← List.replicate_append_replicate]; rfl⟩
        · cases h
      | done => exact ⟨k2, by rw [hshape]; rfl⟩

theorem ensureConn_lift {R : World → World → Prop} (cfg : Cfg) (w : World) (refl : R w w)
    (conn : w.conn = none → R w (connect cfg w).1) : R w (ensureConn cfg w).1 := by
  unfold ensureConn
  cases hc : w.conn with
  | some c => exact refl
  | none => exact conn hc

/-- **one round of the retry loop**, begun at `start` (after the throttle) in the world `e.1` that the (re)connect left.
The connect failed: the loop body sees an error item, and leaves with a result (first case) or the next round begins
(second). There is a connection: an attempt runs on it, and the loop ends with what the attempt returned or — the attempt
failed and the body did not leave — the next round begins (third). The first case also covers a connect that reports
success and leaves no connection (`r = .cont s`), which `connect_outcome` rules out. `start` comes with its equation so
that a caller may have generalised it (`retryLoop_time`), `e` so that the statement can name what the (re)connect
returned; the others pass `_ rfl _ rfl`. -/
theorem retryLoop_round {σ ρ : Type} (cfg : Cfg) (d : SeqDesc) (timeout : Nat) (step : σ → Item → Step σ ρ) (n : Nat)
    (prev : Option Nat) (w : World) (s : σ) (start : Nat) (hs : throttleStart prev w.now = start) (e : World × Bool)
    (he : ensureConn cfg { w with now := start } = e) :
    (∃ r, retryLoop cfg d timeout step (n + 1) prev w s = (r, e.1) ∧ (r = .cont s ∨ step s .err = r)) ∨
    (∃ s', retryLoop cfg d timeout step (n + 1) prev w s = retryLoop cfg d timeout step n (some start) e.1 s') ∨
    (∃ c, e.1.conn = some c ∧
      (retryLoop cfg d timeout step (n + 1) prev w s =
          ((runItems d timeout step ITEM_FUEL e.1 c .start s).1, (runItems d timeout step ITEM_FUEL e.1 c .start s).2.1) ∨
       ∃ s', retryLoop cfg d timeout step (n + 1) prev w s =
          retryLoop cfg d timeout step n (some start) (runItems d timeout step ITEM_FUEL e.1 c .start s).2.1 s')) := by
  subst hs
  simp only [retryLoop, he]
  obtain ⟨w1, live⟩ := e
  cases live with
  | false =>
    simp only
    cases step s .err with
    | ret r => exact .inl ⟨_, rfl, .inr rfl⟩
    | cont s' => exact .inr (.inl ⟨s', rfl⟩)
  | true =>
    simp only
    cases hc : w1.conn with
    | none => exact .inl ⟨_, rfl, .inl rfl⟩
    | some c =>
      refine .inr (.inr ⟨c, rfl, ?_⟩)
      simp only
      generalize runItems d timeout step ITEM_FUEL w1 c .start s = a
      obtain ⟨o, w2, b⟩ := a
      cases o with
      | ret r => exact .inl rfl
      | cont s' =>
        cases b with
        | false => exact .inl rfl
        | true => exact .inr ⟨s', rfl⟩

theorem retryLoop_lift {σ ρ : Type} (cfg : Cfg) (d : SeqDesc) (timeout : Nat) (step : σ → Item → Step σ ρ)
    (R : World → World → Prop) (refl : ∀ w, R w w) (trans : ∀ {a b c}, R a b → R b c → R a c)
    (clock : ∀ w t, R w { w with now := t }) (conn : ∀ w, w.conn = none → R w (connect cfg w).1)
    (items : ∀ w c s, w.conn = some c → R w (runItems d timeout step ITEM_FUEL w c .start s).2.1) :
    ∀ (n : Nat) (prev : Option Nat) (w : World) (s : σ), R w (retryLoop cfg d timeout step n prev w s).2 := by
  intro n
  induction n with
  | zero => intro prev w s; exact refl w
  | succ n ih =>
    intro prev w s
    have he := trans (clock w (throttleStart prev w.now)) (ensureConn_lift cfg _ (refl _) (conn _))
    rcases retryLoop_round cfg d timeout step n prev w s _ rfl _ rfl with ⟨_, e, _⟩ | ⟨s', e⟩ | ⟨c, hc, e | ⟨s', e⟩⟩ <;> rw [e]
    · exact he
    · exact trans he (ih _ _ s')
    · exact trans he (items _ c s hc)
    · exact trans (trans he (items _ c s hc)) (ih _ _ s')

theorem ensureConn_time (cfg : Cfg) (w : World) :
    (ensureConn cfg w).1.gap = w.gap ∧ (ensureConn cfg w).1.now ≤ w.now + TIMEOUT :=
  ensureConn_lift (R := fun w w' => w'.gap = w.gap ∧ w'.now ≤ w.now + TIMEOUT) cfg w
    ⟨rfl, Nat.le_add_right _ _⟩
    fun _ => ⟨(connect_time cfg w).1, (connect_time cfg w).2.2.1⟩

/-- budget of one attempt: throttle + connect guard + what the items of the attempt may take. -/
def attemptBudget (timeout : Nat) : Nat := THROTTLE + TIMEOUT + timeout

theorem throttleStart_ge (prev : Option Nat) (now : Nat) : now ≤ throttleStart prev now := by
  unfold throttleStart; cases prev with
  | none => simp
  | some p => exact Nat.le_max_left _ _

/-- `g`: the terminal's pace; `L`: what an attempt on a live connection takes at most, at that pace. -/
theorem retryLoop_time {σ ρ : Type} (cfg : Cfg) (d : SeqDesc) (timeout : Nat) (step : σ → Item → Step σ ρ) (g L : Nat)
    (hL : ∀ (w : World) (c : ConnSt) (s : σ), w.gap = g →
      (runItems d timeout step ITEM_FUEL w c .start s).2.1.now ≤ w.now + L) :
    ∀ (n : Nat) (prev : Option Nat) (w : World) (s : σ), w.gap = g →
      (retryLoop cfg d timeout step n prev w s).2.gap = g ∧
      (retryLoop cfg d timeout step n prev w s).2.now ≤ throttleStart prev w.now + n * attemptBudget L := by
  intro n
  induction n with
  | zero => intro prev w s hg; exact ⟨hg, by rw [Nat.zero_mul]; exact throttleStart_ge prev w.now⟩
  | succ n ih =>
    intro prev w s hg
    generalize hstart : throttleStart prev w.now = start
    -- the arithmetic: a round that is over by `start + TIMEOUT + L` has used up one budget at most, and the next round,
    -- throttled to begin no earlier than `start + THROTTLE`, begins within it
    have budget : ∀ x, x ≤ start + TIMEOUT + L →
        x ≤ start + (n + 1) * attemptBudget L ∧
        throttleStart (some start) x + n * attemptBudget L ≤ start + (n + 1) * attemptBudget L := by
      intro x hx
      simp only [throttleStart, attemptBudget, Nat.succ_mul]
      omega
    -- so a round that is over by then in the world `wn` keeps the bound, whether the loop ends there or goes on
    have round : ∀ wn : World, wn.gap = g → wn.now ≤ start + TIMEOUT + L →
        (wn.gap = g ∧ wn.now ≤ start + (n + 1) * attemptBudget L) ∧
        ∀ s', (retryLoop cfg d timeout step n (some start) wn s').2.gap = g ∧
          (retryLoop cfg d timeout step n (some start) wn s').2.now ≤ start + (n + 1) * attemptBudget L :=
      fun wn hgn hn => ⟨⟨hgn, (budget _ hn).1⟩,
        fun s' => ⟨(ih _ wn s' hgn).1, Nat.le_trans (ih _ wn s' hgn).2 (budget _ hn).2⟩⟩
    obtain ⟨hg1, h1⟩ := ensureConn_time cfg { w with now := start }
    have r1 := round _ (hg1.trans hg) (Nat.le_trans h1 (Nat.le_add_right _ _))
    rcases retryLoop_round cfg d timeout step n prev w s start hstart _ rfl with ⟨_, e, _⟩ | ⟨s', e⟩ | ⟨c, _, h⟩
    · rw [e]; exact r1.1
    · rw [e]; exact r1.2 s'
    · have r2 := round _ ((runItems_time d timeout step ITEM_FUEL _ c .start s).1.trans (hg1.trans hg))
        (Nat.le_trans (hL _ c s (hg1.trans hg)) (Nat.add_le_add_right h1 L))
      rcases h with e | ⟨s', e⟩ <;> rw [e]
      · exact r2.1
      · exact r2.2 s'

theorem runItems_ret {σ ρ : Type} (d : SeqDesc) (timeout : Nat) (step : σ → Item → Step σ ρ) (P : ρ → Prop)
    (hP : ∀ s it r, step s it = .ret r → P r) :
    ∀ (fuel : Nat) (w : World) (c : ConnSt) (st : SeqSt) (s : σ) (r : ρ),
      (runItems d timeout step fuel w c st s).1 = .ret r → P r := by
  intro fuel
  induction fuel with
  | zero => intro w c st s r h; cases h
  | succ fuel ih =>
    intro w c st s r
    rcases runItems_round d timeout step fuel s (Prod.eta _).symm with ⟨_, _, e, ho, _⟩ | ⟨_, _, e, _⟩ | ⟨_, _, s', _, _, e⟩ <;> rw [e]
    · rintro rfl
      rcases ho with h | ⟨it, h⟩
      · cases h
      · exact hP s it r h
    · exact nofun
    · exact ih _ _ _ s' r

theorem retryLoop_ret {σ ρ : Type} (cfg : Cfg) (d : SeqDesc) (timeout : Nat) (step : σ → Item → Step σ ρ) (P : ρ → Prop)
    (hP : ∀ s it r, step s it = .ret r → P r) :
    ∀ (n : Nat) (prev : Option Nat) (w : World) (s : σ) (r : ρ),
      (retryLoop cfg d timeout step n prev w s).1 = .ret r → P r := by
  intro n
  induction n with
  | zero => intro prev w s r h; cases h
  | succ n ih =>
    intro prev w s r
    rcases retryLoop_round cfg d timeout step n prev w s _ rfl _ rfl with ⟨_, e, ho⟩ | ⟨s', e⟩ | ⟨c, _, e | ⟨s', e⟩⟩ <;> rw [e]
    · rintro rfl
      rcases ho with h | h
      · cases h
      · exact hP s .err r h
    · exact ih _ _ s' r
    · exact runItems_ret d timeout step P hP ITEM_FUEL _ c .start s r
    · exact ih _ _ s' r

/-- whatever the terminal does, an operation's early result satisfies every property that all results of
its loop body satisfy. -/
theorem runOp_ret_from_step {σ ρ : Type} (cfg : Cfg) (seqName : String) (cmd : Bytes) (timeout : Nat)
    (step : σ → Item → Step σ ρ) (w : World) (s : σ) (P : ρ → Prop) (hP : ∀ s it r, step s it = .ret r → P r) :
    ∀ r, (runOp cfg seqName cmd timeout step w s).1 = .ret r → P r :=
  retryLoop_ret cfg (seqDesc seqName cmd) timeout step P hP ATTEMPTS none w s

end Zvt
