/-
  Pace.lean — bookkeeping of the terminal's pauses on one connection (DESIGN.md §6.3). Three facts, each on its own:
  sending and reading keep the marks parallel to the bytes on the wire (`ConnSt.WF`: `put_wf`, `connRead_wf`; the other
  two do not need it); what a read pays and what is owed afterwards add up to what was owed (`connRead_conserves`); so
  a read whose deadline leaves room for the pauses still owed times out only on silence (`readBy_hang_is_silence`,
  `looping_hang_is_silence`). C10 states them under its own names.
-/
import ZvtVerif.Proofs.ClientSteps
import ZvtVerif.Proofs.Framing
namespace Zvt

theorem sum_take_drop (l : List Nat) (n : Nat) : (l.take n).sum + (l.drop n).sum = l.sum := by
  rw [← List.sum_append, List.take_append_drop]

/-- the marks run parallel to the bytes on the wire. -/
def ConnSt.WF (c : ConnSt) : Prop := c.marks.length = c.avail.length

theorem put_wf (c : ConnSt) (b : Bytes) (h : c.WF) : (c.put b).WF := by
  unfold ConnSt.put ConnSt.WF at *
  cases b with
  | nil => exact h
  | cons x tl => simp [h]

theorem connRead_wf (c : ConnSt) (h : c.WF) : (connRead c).2.2.WF := by
  unfold connRead
  split
  · rename_i p rest hf
    have hle := congrArg List.length (readFrame_packet c.avail p rest hf).1
    unfold ConnSt.WF at *
    simp only [List.length_drop, List.length_append] at *
    omega
  · split
    · unfold ConnSt.WF; rfl
    · exact h

theorem connRead_conserves (c : ConnSt) :
    (connRead c).2.1 + ((connRead c).2.2.marks.sum + (connRead c).2.2.eofOwed) = c.marks.sum + c.eofOwed := by
  unfold connRead
  split
  · next p rest _ =>
    -- a packet: paid are the marks of the bytes it took, still owed the marks of `rest`
    have := sum_take_drop c.marks (c.avail.length - rest.length)
    simp only; omega
  · split
    · simp
    · simp

theorem readBy_hang_is_silence (dl : Nat) (w : World) (c c' : ConnSt)
    (hfit : w.now + w.gap * (c.marks.sum + c.eofOwed) ≤ dl) (h : readBy dl w c = .hang c') :
    (connRead c).1 = .hang := by
  -- what the read pays never exceeds what is owed
  have hp : (connRead c).2.1 ≤ c.marks.sum + c.eofOwed := by have := connRead_conserves c; omega
  unfold readBy at h
  generalize hq : connRead c = q at h hp
  obtain ⟨r, k, c2⟩ := q
  simp only at hp
  have hk : (w.waited k).now ≤ dl := by
    show w.now + w.gap * k ≤ dl
    have : w.gap * k ≤ w.gap * (c.marks.sum + c.eofOwed) := Nat.mul_le_mul_left _ hp
    omega
  cases r with
  | hang => rfl
  | eof => simp only at h; rw [if_neg (by omega)] at h; cases h
  | pkt p => simp only at h; rw [if_neg (by omega)] at h; cases h

theorem looping_hang_is_silence (d : SeqDesc) (dl : Nat) (w : World) (c : ConnSt)
    (hfit : w.now + w.gap * (c.marks.sum + c.eofOwed) ≤ dl)
    (h : (seqNext d dl w c .looping).1 = NextOut.hang) : (connRead c).1 = .hang := by
  rcases seqNext_looping_cases d dl w c with ⟨_, ho, e⟩ | ⟨_, _, _, _, _, e⟩ <;> rw [e] at h
  · rcases ho with ⟨_, c', hr⟩ | rfl
    · exact readBy_hang_is_silence dl w c c' hfit hr
    · cases h
  · cases h

end Zvt
