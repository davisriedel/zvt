/-
  BytesLemmas.lean — bytes, nibbles and digits (`byte`, `byte_nibbles`, `digits_3`), integers (`leBytes` / `leVal`,
  `intDecode`); `NP`, the outcome predicate of the totality theorems, and `ReadsPrefix`, what a prefix reader does
  (totality and indifference to appended bytes are read off it); `takeDec`, the common shape of the readers of a fixed
  number of bytes.
-/
import ZvtVerif.Basic
namespace Zvt

@[simp] theorem byte_toNat (n : Nat) : (byte n).toNat = n % 256 := by
  simp [byte, UInt8.toNat_ofNat']

theorem byte_toNat_lt {n : Nat} (h : n < 256) : (byte n).toNat = n := by
  simp [Nat.mod_eq_of_lt h]

theorem toNat_lt (b : UInt8) : b.toNat < 256 := by
  have := b.toNat_lt_size
  simpa [UInt8.size] using this

theorem byte_of_toNat (b : UInt8) : byte b.toNat = b := by
  apply UInt8.toNat_inj.mp
  simp [Nat.mod_eq_of_lt (toNat_lt b)]

theorem byte_nibbles (h l : Nat) (hh : h < 16) (hl : l < 16) :
    (byte (h * 16 + l)).toNat / 16 = h ∧ (byte (h * 16 + l)).toNat % 16 = l := by
  rw [byte_toNat_lt (show h * 16 + l < 256 by omega), Nat.add_comm, Nat.add_mul_div_right _ _ (by decide),
    Nat.add_mul_mod_self_right, Nat.div_eq_of_lt hl, Nat.mod_eq_of_lt hl, Nat.zero_add]
  exact ⟨rfl, rfl⟩

theorem mod_ten_lt (n : Nat) : n % 10 < 16 := Nat.lt_trans (Nat.mod_lt n (by decide)) (by decide)

theorem digits_3 (b c : Nat) : c / (b * b) * (b * b) + c / b % b * b + c % b = c := by
  have h2 := Nat.div_add_mod' (c / b) b
  rw [Nat.div_div_eq_div_mul] at h2
  rw [← Nat.mul_assoc, ← Nat.add_mul, h2, Nat.div_add_mod']

theorem digits_4 (b c : Nat) :
    c / (b * (b * b)) * (b * (b * b)) + c / (b * b) % b * (b * b) + c / b % b * b + c % b = c := by
  have h3 := Nat.div_add_mod' (c / (b * b)) b
  rw [Nat.div_div_eq_div_mul, Nat.mul_comm (b * b) b] at h3
  rw [← Nat.mul_assoc, ← Nat.add_mul, h3, digits_3]

theorem leBytes_length (w n : Nat) : (leBytes w n).length = w := by
  induction w generalizing n with
  | zero => simp [leBytes]
  | succ w ih => simp [leBytes, ih]

theorem beBytes_length (w n : Nat) : (beBytes w n).length = w := by
  simp [beBytes, leBytes_length]

theorem leVal_leBytes (w n : Nat) (h : n < 256 ^ w) : leVal (leBytes w n) = n := by
  induction w generalizing n with
  | zero => simp [leBytes, leVal] at *; omega
  | succ w ih =>
    simp only [leBytes, leVal, byte_toNat]
    have h2 : n / 256 < 256 ^ w := by
      rw [Nat.pow_succ] at h
      exact Nat.div_lt_of_lt_mul (by rw [Nat.mul_comm]; exact h)
    rw [ih _ h2]
    omega

theorem beVal_beBytes (w n : Nat) (h : n < 256 ^ w) : beVal (beBytes w n) = n := by
  simp [beVal, beBytes, leVal_leBytes w n h]

theorem leVal_lt (b : Bytes) : leVal b < 256 ^ b.length := by
  induction b with
  | nil => simp [leVal]
  | cons x xs ih =>
    simp only [leVal, List.length_cons, Nat.pow_succ]
    have := toNat_lt x
    omega

theorem leBytes_leVal (b : Bytes) : leBytes b.length (leVal b) = b := by
  induction b with
  | nil => simp [leBytes]
  | cons x xs ih =>
    simp only [List.length_cons, leBytes, leVal]
    have hx := toNat_lt x
    have h1 : (x.toNat + 256 * leVal xs) % 256 = x.toNat := by omega
    have h2 : (x.toNat + 256 * leVal xs) / 256 = leVal xs := by omega
    rw [h1, h2, ih, byte_of_toNat]

theorem of_proper_prefix {α : Type} {P : List α → Prop} {p q : List α}
    (h : ∀ k, k < (p ++ q).length → P ((p ++ q).take k)) (hq : q ≠ []) : P p := by
  have := h p.length (by rw [List.length_append]; exact Nat.lt_add_of_pos_right (List.length_pos_iff.mpr hq))
  rwa [List.take_left] at this

/-- "no panic, and the remainder is not longer than the input" -/
def NP {α : Type} (r : Res (α × Bytes)) (b : Bytes) : Prop :=
  r.isPanic = false ∧ ∀ v rem, r = .ok (v, rem) → rem.length ≤ b.length

theorem NP_error {α : Type} (e : Err) (b : Bytes) (h : e.isPanic = false) : NP (.error e : Res (α × Bytes)) b :=
  ⟨by simp [Res.isPanic, h], by intro v rem hh; cases hh⟩

theorem NP_ok {α : Type} (v : α) (r b : Bytes) (h : r.length ≤ b.length) : NP (.ok (v, r) : Res (α × Bytes)) b :=
  ⟨by simp [Res.isPanic], by intro v' rem hh; cases hh; exact h⟩

theorem NP_mono {α : Type} (r : Res (α × Bytes)) (b b' : Bytes) (h : NP r b) (hl : b.length ≤ b'.length) : NP r b' :=
  ⟨h.1, fun v rem hh => Nat.le_trans (h.2 v rem hh) hl⟩

theorem NP_err_of {α : Type} {r : Res (α × Bytes)} {b : Bytes} (h : NP r b) {e : Err} (he : r = .error e) : e.isPanic = false := by
  have := h.1; rw [he] at this; simpa [Res.isPanic] using this

/-- the outcome of a prefix reader on `b`: a failure that is no panic, or a prefix `p` of `b` that is read the same
way whatever follows it. Totality (`np`) and indifference to appended bytes (`append`) are both read off this. -/
def ReadsPrefix {α : Type} (f : Bytes → Res (α × Bytes)) (b : Bytes) : Prop :=
  (∃ e, f b = .error e ∧ e.isPanic = false) ∨ ∃ p r v, b = p ++ r ∧ ∀ x, f (p ++ x) = .ok (v, x)

theorem ReadsPrefix.np {α : Type} {f : Bytes → Res (α × Bytes)} {b : Bytes} (h : ReadsPrefix f b) : NP (f b) b := by
  obtain ⟨e, he, hp⟩ | ⟨p, r, v, rfl, hx⟩ := h
  · rw [he]; exact NP_error e b hp
  · rw [hx]; exact NP_ok _ _ _ (by simp)

theorem ReadsPrefix.append {α : Type} {f : Bytes → Res (α × Bytes)} {b : Bytes} (h : ReadsPrefix f b) (x : Bytes)
    {v : α} {r : Bytes} (hb : f b = .ok (v, r)) : f (b ++ x) = .ok (v, r ++ x) := by
  obtain ⟨e, he, _⟩ | ⟨p, r', v', rfl, hx⟩ := h
  · rw [he] at hb; cases hb
  · rw [hx] at hb; cases hb
    rw [List.append_assoc, hx]

/-- a reader of exactly `w` bytes: the shape of `intDecode` (by definition) and of `llvDe` (`llvDe_eq`). -/
def takeDec {α : Type} (w : Nat) (f : Bytes → α) (b : Bytes) : Res (α × Bytes) :=
  if b.length < w then .error .incomplete else .ok (f (b.take w), b.drop w)

theorem takeDec_short {α : Type} (w : Nat) (f : Bytes → α) (b : Bytes) (h : b.length < w) :
    takeDec w f b = .error .incomplete := if_pos h

theorem takeDec_left {α : Type} (f : Bytes → α) (p d : Bytes) : takeDec p.length f (p ++ d) = .ok (f p, d) := by
  rw [takeDec, if_neg (by simp), List.take_left, List.drop_left]

theorem takeDec_reads {α : Type} (w : Nat) (f : Bytes → α) (b : Bytes) : ReadsPrefix (takeDec w f) b := by
  by_cases h : b.length < w
  · exact .inl ⟨_, if_pos h, rfl⟩
  · refine .inr ⟨b.take w, b.drop w, f (b.take w), (List.take_append_drop w b).symm, fun x => ?_⟩
    have := takeDec_left f (b.take w) x
    rwa [List.length_take_of_le (Nat.le_of_not_lt h)] at this

theorem intDecode_eq (be : Bool) (w : Nat) : intDecode be w = takeDec w (if be then beVal else leVal) := rfl

theorem intEncode_length (be : Bool) (w n : Nat) : (intEncode be w n).length = w := by
  cases be
  · exact leBytes_length w n
  · exact beBytes_length w n

theorem intDecode_intEncode (be : Bool) (w n : Nat) (h : n < 256 ^ w) (d : Bytes) :
    intDecode be w (intEncode be w n ++ d) = .ok (n, d) := by
  have := takeDec_left (if be then beVal else leVal) (intEncode be w n) d
  rw [intEncode_length] at this
  rw [intDecode_eq, this]
  cases be <;> simp [intEncode, leVal_leBytes w n h, beVal_beBytes w n h]

theorem intDecode_append (be : Bool) (w : Nat) (b x : Bytes) (n : Nat) (r : Bytes)
    (h : intDecode be w b = .ok (n, r)) : intDecode be w (b ++ x) = .ok (n, r ++ x) :=
  (takeDec_reads w _ b).append x h

theorem intDecode_np (be : Bool) (w : Nat) (b : Bytes) : NP (intDecode be w b) b := (takeDec_reads w _ b).np

theorem byte_toNat_mod (n : Nat) : (byte (n % 256)).toNat = n % 256 := byte_toNat_lt (Nat.mod_lt _ (by decide))

theorem byte_toNat_div {n : Nat} (h : n < 65536) : (byte (n / 256)).toNat = n / 256 :=
  byte_toNat_lt (Nat.div_lt_of_lt_mul h)

/-- big-endian 16-bit values, byte by byte (BER length `82 hh ll`, two-byte tags). -/
theorem beBytes_two (n : Nat) (h : n < 65536) : beBytes 2 n = [byte (n / 256), byte (n % 256)] :=
  congrArg (fun x => [byte x, byte (n % 256)]) (Nat.mod_eq_of_lt (Nat.div_lt_of_lt_mul h))

end Zvt
