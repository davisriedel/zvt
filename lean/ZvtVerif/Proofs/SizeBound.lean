/-
  SizeBound.lean — the decoded value is never larger than a schema constant times the input consumed (C02:
  "never allocates beyond a small multiple of the input"), for every schema and every byte string; proved
  together with totality (`Bd Val.size W` is `NP ∧ SB W`), in one induction over the schema.
-/
import ZvtVerif.Proofs.NoPanic
namespace Zvt


mutual
/-- number of nodes, characters and payload bytes of a value (what a decoder has to allocate for it). -/
def Val.size : Val → Nat
  | .num _ => 1
  | .str cs => 1 + cs.length
  | .raw b => 1 + b.length
  | .dt _ _ => 1
  | .none => 1
  | .some v => 1 + v.size
  | .vec vs => 1 + Val.sizeList vs
  | .struct vs => 1 + Val.sizeList vs
def Val.sizeList : List Val → Nat
  | [] => 0
  | v :: vs => v.size + Val.sizeList vs
end

theorem sizeList_append (a b : List Val) : Val.sizeList (a ++ b) = Val.sizeList a + Val.sizeList b := by
  induction a with
  | nil => simp [Val.sizeList]
  | cons x xs ih => simp [Val.sizeList, ih]; omega

theorem sizeList_reverse (a : List Val) : Val.sizeList a.reverse = Val.sizeList a := by
  induction a with
  | nil => rfl
  | cons x xs ih => simp [sizeList_append, Val.sizeList, ih]; omega

/-- "the remainder is not longer than the input and the value is at most `W × (1 + bytes consumed)`". -/
def SB (W : Nat) (r : Res (Val × Bytes)) (b : Bytes) : Prop :=
  ∀ v rem, r = .ok (v, rem) → rem.length ≤ b.length ∧ v.size ≤ W * (1 + (b.length - rem.length))

/-- a longer enclosing input only increases the consumption. -/
theorem SB_mono (W : Nat) (r : Res (Val × Bytes)) (b b' : Bytes) (h : SB W r b) (hl : b.length ≤ b'.length) : SB W r b' := by
  intro v rem hr
  obtain ⟨h1, h2⟩ := h v rem hr
  exact ⟨by omega, Nat.le_trans h2 (Bd.mul_mono (Nat.le_refl W) (by omega))⟩

theorem Bd.sb {W : Nat} {r : Res (Val × Bytes)} {b : Bytes} (h : Bd Val.size W r b) : SB W r b := by
  intro v rem hr; subst hr; exact h

theorem trimNul_length (cs : List Nat) : (trimNul cs).length ≤ cs.length := by
  unfold trimNul
  rw [List.length_reverse]
  have := (List.dropWhile_sublist (l := cs.reverse) fun x : Nat => decide (x = 0)).length_le
  simpa using this

theorem hexDecodeStr_length (b : Bytes) : (hexDecodeStr b).length = 2 * b.length := by
  induction b with
  | nil => rfl
  | cons x xs ih => simp [hexDecodeStr, ih]; omega

theorem map_cons_length {r : Option (List Nat)} {c : Nat} {cs : List Nat} {n : Nat}
    (ih : ∀ cs', r = some cs' → cs'.length ≤ n) (h : r.map (c :: ·) = some cs) : cs.length ≤ n + 1 := by
  cases r with
  | none => cases h
  | some cs' => cases h; exact Nat.succ_le_succ (ih cs' rfl)

/-- every branch that succeeds prepends one character to the decoding of a strict suffix. -/
theorem utf8DecodeFuel_length : ∀ (f : Nat) (b : Bytes) (cs : List Nat), utf8DecodeFuel f b = some cs → cs.length ≤ b.length := by
  intro f b
  fun_induction utf8DecodeFuel f b with
  | case1 => intro cs h; cases h -- no fuel
  | case2 => intro cs h; cases h; exact Nat.le_refl _ -- end of input
  | case3 f b0 rest n0 hn ih => intro cs h; exact map_cons_length ih h -- 1-byte form
  | case4 f b0 n0 h1 h2 b1 r hc ih => -- 2-byte form
    intro cs h; exact Nat.le_succ_of_le (map_cons_length ih h)
  | case5 => intro cs h; cases h -- 2-byte form, no continuation byte
  | case6 => intro cs h; cases h -- 2-byte form, input ends
  | case7 f b0 n0 h1 h2 h3 b1 b2 r c hc ih => -- 3-byte form
    intro cs h; exact Nat.le_succ_of_le (Nat.le_succ_of_le (map_cons_length ih h))
  | case8 => intro cs h; cases h -- 3-byte form, rejected (continuation bytes, overlong, surrogate)
  | case9 => intro cs h; cases h -- 3-byte form, input ends
  | case10 f b0 n0 h1 h2 h3 h4 b1 b2 b3 r c hc ih => -- 4-byte form
    intro cs h; exact Nat.le_succ_of_le (Nat.le_succ_of_le (Nat.le_succ_of_le (map_cons_length ih h)))
  | case11 => intro cs h; cases h -- 4-byte form, rejected (continuation bytes, overlong, above U+10FFFF)
  | case12 => intro cs h; cases h -- 4-byte form, input ends
  | case13 => intro cs h; cases h -- no lead byte (80–C1, F5–FF)

theorem Bd_num {r : Res (Nat × Bytes)} {b : Bytes} (h : NP r b) :
    Bd Val.size 2 (r.map fun (n, x) => (Val.num n, x)) b := by
  cases r with
  | error e => exact NP_err_of h rfl
  | ok p => exact ⟨h.2 _ _ rfl, by simp [Val.size]; omega⟩

theorem Bd_str {cs : List Nat} {b : Bytes} (h : cs.length ≤ 2 * b.length) : Bd Val.size 2 (.ok (.str cs, [])) b :=
  ⟨Nat.zero_le _, by simp only [Val.size, List.length_nil, Nat.sub_zero]; omega⟩

theorem leafDec_bd (E : Enc) (t : Ty) (h : leafTyped E t = true) (b : Bytes) : Bd Val.size 2 (leafDec E t b) b := by
  -- the nine implemented combinations in the order of `leafTyped`, then the rest (`h` is `false = true`)
  have h2 : b.length ≤ 2 * b.length := Nat.le_mul_of_pos_left _ (by decide)
  revert h
  fun_cases leafTyped E t <;> intro h <;> simp only [leafDec]
  · exact Bd_num (intDecode_np false _ b) -- dflt, int
  · exact Bd_num (intDecode_np true _ b) -- bigEndian, int
  · exact Bd_num (bcdDec_np _ b) -- bcd, int
  · exact Bd_num (prrnDec_np _ b) -- prrn, int
  · exact Bd_str (Nat.le_trans (trimNul_length _) (by rwa [List.length_map])) -- dflt, str (CP437)
  · exact Bd_str (Nat.le_of_eq (hexDecodeStr_length b)) -- hex, str
  · split -- utf8, str
    · rename_i cs hcs
      exact Bd_str (Nat.le_trans (utf8DecodeFuel_length _ b cs hcs) h2)
    · exact rfl
  · exact ⟨Nat.zero_le _, by simp only [Val.size, List.length_nil, Nat.sub_zero]; omega⟩ -- custom, bytes
  · refine (dtDecode_post b).imp fun p ⟨hl, d, t, hv⟩ => ⟨hl, ?_⟩ -- dflt, dateTime
    rw [hv, Val.size]; omega
  · cases h -- not implemented

/-- per element `W·(1 + c₁) ≤ 2·W·c₁` because the progress guard gives `c₁ ≥ 1`. -/
theorem SizeBound.vec_step {s s' W c1 c2 c : Nat} (hs : s ≤ W * (1 + c1)) (h1 : 1 ≤ c1) (hc : c1 + c2 = c)
    (hs' : s' ≤ 2 * W * c2) : s + s' ≤ 2 * W * c := by
  subst hc
  have : W * (1 + c1) ≤ W * (2 * c1) := Nat.mul_le_mul_left W (by omega)
  rw [Nat.mul_add, Nat.mul_assoc 2 W c1, Nat.mul_left_comm 2 W c1]
  omega

theorem vecLoop_bd (W : Nat) (elem : Bytes → Res (Val × Bytes)) (helem : ∀ x, Bd Val.size W (elem x) x) :
    ∀ (fuel : Nat) (bytes : Bytes) (items : List Val), bytes.length < fuel →
      (vecLoop elem fuel bytes items).Post fun p => p.2.length ≤ bytes.length ∧
          p.1.size ≤ 1 + Val.sizeList items + 2 * W * (bytes.length - p.2.length) := by
  intro fuel
  induction fuel with
  | zero => intro bytes items h; omega
  | succ fuel ih =>
    intro bytes items hf
    simp only [vecLoop]
    have stop : (Val.vec items.reverse).size ≤ 1 + Val.sizeList items + 2 * W * (bytes.length - bytes.length) := by
      simp [Val.size, sizeList_reverse]
    have he := helem bytes
    cases hd : elem bytes with
    | error e =>
      rw [hd] at he
      have he' : e.isPanic = false := he
      simp only [he']
      exact ⟨Nat.le_refl _, stop⟩
    | ok p =>
      obtain ⟨item, rest⟩ := p
      rw [hd] at he
      obtain ⟨hr, hsz⟩ := he
      simp only at hr hsz ⊢
      split
      · exact ⟨Nat.le_refl _, stop⟩
      · next hne =>
        refine (ih rest (item :: items) (by omega)).imp ?_
        intro p ⟨h1, h2⟩
        refine ⟨Nat.le_trans h1 hr, ?_⟩
        simp only [Val.sizeList] at h2
        have := SizeBound.vec_step hsz (Nat.sub_pos_of_lt (Nat.lt_of_le_of_ne hr hne)) (Nat.sub_add_sub_cancel hr h1)
          (Nat.le_refl (2 * W * (rest.length - p.2.length)))
        omega

def accSize : List (Nat × Val) → Nat
  | [] => 0
  | (_, v) :: r => v.size + accSize r

theorem SizeBound.tag_step {a v A Wf x y z : Nat} (hv : v ≤ Wf * x) (ha : a ≤ v + A + Wf * y) (h : x + y ≤ z) : a ≤ A + Wf * z := by
  have := Nat.mul_le_mul_left Wf h
  rw [Nat.mul_add] at this
  omega

/-- the count of `Wf`-units behind `tagLoop_bd`: one entry costs `1 + c₁`, the rounds after it `2·c₂`, plus one if the
entry consumed something; a round that is entered at all (`currLen ≠ length`) has `2·(c₁+c₂) + 1` to spend. -/
theorem SizeBound.tag_count (bl rl pl : Nat) (h1 : pl ≤ rl) (h2 : rl ≤ bl) :
    (1 + (bl - rl)) + (2 * (rl - pl) + if bl = rl then 0 else 1) ≤ 2 * (bl - pl) + 1 := by
  split <;> omega

/-- The fuel hypothesis has two cases because the loop's guard has. With `currLen = bytes.length` (the round before
consumed nothing) this round stops, and one unit is enough. Otherwise a round that consumes nothing is followed by one
that stops, and one that consumes leaves a shorter input: `bytes.length + 2` covers both. `decStructWith` starts in the
second case (`currLen` is one more than the length). -/
theorem tagLoop_bd (Wf : Nat) (arm : Nat → Bytes → Option (Nat × Res (Val × Bytes)))
    (harm : ∀ t x idx r, arm t x = some (idx, r) → Bd Val.size Wf r x) :
    ∀ (fuel currLen : Nat) (bytes : Bytes) (acc : List (Nat × Val)) (seen : List Nat),
      (currLen = bytes.length → 1 ≤ fuel) → (currLen ≠ bytes.length → bytes.length + 2 ≤ fuel) →
      (tagLoop arm fuel currLen bytes acc seen).Post fun p => p.2.2.length ≤ bytes.length ∧
          accSize p.1 ≤ accSize acc + Wf * (2 * (bytes.length - p.2.2.length) + (if currLen = bytes.length then 0 else 1)) := by
  intro fuel
  induction fuel with
  | zero =>
    intro currLen bytes acc seen h1 h2
    by_cases h : currLen = bytes.length
    · have := h1 h; omega
    · have := h2 h; omega
  | succ fuel ih =>
    intro currLen bytes acc seen h1 h2
    simp only [tagLoop]
    have stop : bytes.length ≤ bytes.length ∧ accSize acc ≤
        accSize acc + Wf * (2 * (bytes.length - bytes.length) + (if currLen = bytes.length then 0 else 1)) :=
      ⟨Nat.le_refl _, Nat.le_add_right _ _⟩
    split
    · exact stop
    · rename_i hcont
      have hne : currLen ≠ bytes.length := fun hc => hcont (Or.inr hc)
      have hfuel := h2 hne
      cases htd : tagDecDefault bytes with
      | error e => exact stop
      | ok p =>
        obtain ⟨t, r0⟩ := p
        simp only
        cases ha : arm t bytes with
        | none => exact stop
        | some q =>
          obtain ⟨idx, r⟩ := q
          simp only
          split
          · exact (rfl : (Err.duplicateTag t).isPanic = false)
          · have hr := harm t bytes idx r ha
            cases r with
            | error e => exact hr
            | ok w =>
              obtain ⟨v, rest⟩ := w
              obtain ⟨hle, hsz⟩ := hr
              simp only at hle hsz ⊢
              -- fuel for the next round: one unit if nothing was consumed (it stops), `rest.length + 2` otherwise
              have hf : bytes.length + 1 ≤ fuel := Nat.le_of_succ_le_succ hfuel
              refine (ih bytes.length rest ((idx, v) :: acc) (t :: seen) (fun _ => Nat.le_trans (Nat.le_add_left 1 _) hf)
                (fun hn => Nat.le_trans (Nat.succ_le_succ (Nat.lt_of_le_of_ne hle (Ne.symm hn))) hf)).imp ?_
              intro p ⟨h1, h2⟩
              refine ⟨Nat.le_trans h1 hle, ?_⟩
              simp only [accSize] at h2
              exact SizeBound.tag_step hsz h2 (SizeBound.tag_count _ _ _ h1 hle)

def accSizeFrom (i : Nat) : List (Nat × Val) → Nat
  | [] => 0
  | (j, v) :: r => (if i ≤ j then v.size else 0) + accSizeFrom i r

theorem accSizeFrom_mono (i : Nat) : ∀ acc, accSizeFrom (i + 1) acc ≤ accSizeFrom i acc := by
  intro acc
  induction acc with
  | nil => simp [accSizeFrom]
  | cons a r ih =>
    obtain ⟨j, v⟩ := a
    simp only [accSizeFrom]
    split <;> split <;> omega

theorem accSizeFrom_zero : ∀ acc, accSizeFrom 0 acc = accSize acc := by
  intro acc
  induction acc with
  | nil => rfl
  | cons a r ih => obtain ⟨j, v⟩ := a; simp [accSizeFrom, accSize, ih]

def optSize : Option Val → Nat
  | none => 0
  | some v => v.size

theorem lookup_size (i : Nat) : ∀ acc, optSize (lookupIdx i acc) + accSizeFrom (i + 1) acc ≤ accSizeFrom i acc := by
  intro acc
  induction acc with
  | nil => simp [lookupIdx, optSize, accSizeFrom]
  | cons a r ih =>
    obtain ⟨j, v⟩ := a
    simp only [lookupIdx, accSizeFrom]
    by_cases hij : i = j
    · subst hij
      have := accSizeFrom_mono i r
      have hn : ¬ (i + 1 ≤ i) := by omega
      simp only [if_true, Nat.le_refl, hn, if_false, optSize]; omega
    · simp only [hij, if_false]
      split <;> split <;> omega

theorem dflt_size (t : Ty) : t.dflt.size = 1 := by
  cases t <;> simp [Ty.dflt, Val.size, Val.sizeList]

theorem assemble_size : ∀ (fs : List Field) (pvals : List Val) (acc : List (Nat × Val)) (i : Nat),
    Val.sizeList (assemble fs pvals acc i) ≤ fs.length + Val.sizeList pvals + accSizeFrom i acc := by
  intro fs
  induction fs with
  | nil => intro pvals acc i; simp [assemble, Val.sizeList]
  | cons f fs ih =>
    intro pvals acc i
    simp only [assemble]
    have hm := accSizeFrom_mono i acc
    cases f.tag with
    | none =>
      cases pvals with
      | cons p ps =>
        have := ih ps acc (i + 1)
        simp only [Val.sizeList, List.length_cons]; omega
      | nil =>
        have := ih [] acc (i + 1)
        simp only [Val.sizeList, List.length_cons, dflt_size] at *; omega
    | some t =>
      have := ih pvals acc (i + 1)
      have hl := lookup_size i acc
      simp only [Val.sizeList, List.length_cons]
      cases hlk : lookupIdx i acc with
      | none => simp only [Option.getD, dflt_size]; omega
      | some v => rw [hlk] at hl; simp only [Option.getD, optSize] at hl ⊢; omega

/-- the struct's bound from those of its two phases: `n` fields, the positional values (`sp`, read from `lb` down to
`lr` bytes) and the tagged ones (`sa`, from `lr` down to `lr'`). -/
theorem SizeBound.final_bound {X n sp sa s lb lr lr' : Nat} (hn : n ≤ X) (hr : lr ≤ lb) (hr' : lr' ≤ lr)
    (hsp : sp ≤ X * (1 + (lb - lr))) (hsa : sa ≤ X * (2 * (lr - lr') + 1)) (hs : s ≤ n + sp + sa) :
    1 + s ≤ (1 + 3 * X) * (1 + (lb - lr')) := by
  rw [← Nat.sub_add_sub_cancel hr hr']
  generalize lb - lr = cp at hsp ⊢
  generalize lr - lr' = ct at hsa ⊢
  have hc : 1 + (1 + cp) + (2 * ct + 1) ≤ 3 * (1 + (cp + ct)) := by clear hsp hsa; omega
  calc 1 + s ≤ 1 + (X * 1 + X * (1 + cp) + X * (2 * ct + 1)) :=
        Nat.add_le_add_left (Nat.le_trans hs (Nat.add_le_add (Nat.add_le_add (Nat.le_trans hn (Nat.le_of_eq (Nat.mul_one X).symm)) hsp) hsa)) 1
    _ = 1 + X * (1 + (1 + cp) + (2 * ct + 1)) := by rw [← Nat.mul_add, ← Nat.mul_add]
    _ ≤ (1 + (cp + ct)) + X * (3 * (1 + (cp + ct))) := Nat.add_le_add (Nat.le_add_right 1 _) (Nat.mul_le_mul_left X hc)
    _ = (1 + 3 * X) * (1 + (cp + ct)) := by rw [Nat.add_mul, Nat.one_mul, Nat.mul_comm 3 X, Nat.mul_assoc]

theorem decStructWith_bd (Wf : Nat) (decPosF : Bytes → Res (List Val × Bytes)) (arm : Nat → Bytes → Option (Nat × Res (Val × Bytes)))
    (hpos : ∀ x, Bd Val.sizeList Wf (decPosF x) x) (harm : ∀ t x idx r, arm t x = some (idx, r) → Bd Val.size Wf r x)
    (fs : List Field) (hn : fs.length ≤ Wf) (b : Bytes) : Bd Val.size (1 + 3 * Wf) (decStructWith decPosF arm fs b) b := by
  unfold decStructWith
  have hp := hpos b
  cases hd : decPosF b with
  | error e => rw [hd] at hp; exact hp
  | ok p =>
    obtain ⟨pvals, rest⟩ := p
    rw [hd] at hp
    obtain ⟨hr, hps⟩ := hp
    simp only at hr hps ⊢
    have ht := tagLoop_bd Wf arm harm (rest.length + 2) (rest.length + 1) rest [] [] (by intro _; omega) (by intro _; omega)
    cases hl : tagLoop arm (rest.length + 2) (rest.length + 1) rest [] [] with
    | error e => rw [hl] at ht; exact ht
    | ok q =>
      obtain ⟨acc, seen, rest'⟩ := q
      rw [hl] at ht
      obtain ⟨hr', hacc⟩ := ht
      simp only at hr' hacc ⊢
      split
      · have hasm := assemble_size fs pvals acc 0
        rw [accSizeFrom_zero] at hasm
        rw [if_neg (Nat.succ_ne_self _), accSize, Nat.zero_add] at hacc
        exact ⟨Nat.le_trans hr' hr, SizeBound.final_bound hn hr hr' hps hacc hasm⟩
      · exact (rfl : (Err.missing _).isPanic = false)

mutual
/-- the schema constant: how many value cells one consumed byte can cost at most. -/
def Ty.weight : Ty → Nat
  | .int _ => 2
  | .str => 2
  | .bytes => 2
  | .dateTime => 2
  | .opt t => Ty.weight t + 1
  | .vec t => 2 * Ty.weight t + 1
  | .struct fs => 1 + 3 * fieldsWeight fs
def fieldsWeight : List Field → Nat
  | [] => 0
  | .mk _ _ _ _ ty :: fs => Ty.weight ty + fieldsWeight fs
end

theorem weight_pos (t : Ty) : 1 ≤ Ty.weight t := by
  cases t <;> simp [Ty.weight] <;> omega

theorem length_le_weight : ∀ fs : List Field, fs.length ≤ fieldsWeight fs := by
  intro fs
  induction fs with
  | nil => simp [fieldsWeight]
  | cons f fs ih =>
    obtain ⟨n, tg, L, E, ty⟩ := f
    simp only [List.length_cons, fieldsWeight]
    have := weight_pos ty
    omega

theorem SizeBound.combine_le (a b c d : Nat) : a * (1 + c) + b * (1 + d) ≤ (a + b) * (1 + (c + d)) := by
  rw [Nat.add_mul]
  exact Nat.add_le_add (Nat.mul_le_mul_left a (by omega)) (Nat.mul_le_mul_left b (by omega))

theorem succ_weight (s W c : Nat) (h : s ≤ W * (1 + c)) : 1 + s ≤ (W + 1) * (1 + c) := by
  rw [Nat.add_mul, Nat.one_mul]; omega

theorem vec_weight (s W c : Nat) (h : s ≤ 1 + 2 * W * c) : s ≤ (2 * W + 1) * (1 + c) := by
  rw [Nat.add_mul, Nat.one_mul, Nat.mul_add, Nat.mul_one]
  have : 2 * W * c ≤ 2 * W + 2 * W * c := Nat.le_add_left _ _
  omega

/-- the `match` is the one `Ty.de` has in its `Option` case, so that `exact Bd_some …` closes that goal as it stands.
`generalizing := false`: left to itself the `match` would also abstract `h`, which mentions `r`, and be another term. -/
theorem Bd_some {W : Nat} {r : Res (Val × Bytes)} {b : Bytes} (h : Bd Val.size W r b) :
    Bd Val.size (W + 1) (match (generalizing := false) r with | .error e => .error e | .ok (v, r) => .ok (.some v, r)) b := by
  cases r with
  | error e => exact h
  | ok p => exact ⟨h.1, by simp only [Val.size]; exact succ_weight _ _ _ h.2⟩

mutual
theorem Ty.de_bd : ∀ (t : Ty) (L : LenKind) (E : Enc) (tag : Option Nat) (b : Bytes),
    Ty.typed t L E = true → Bd Val.size (Ty.weight t) (Ty.de t L E tag b) b
  | .int _, L, E, tag, b, h | .str, L, E, tag, b, h | .bytes, L, E, tag, b, h | .dateTime, L, E, tag, b, h => by
    simp only [Ty.typed, Bool.and_eq_true] at h
    exact deserTagged_bd _ 2 _ tagDecDefault_np L (known_ne L h.1) _ (leafDec_bd E _ h.2) tag b
  | .struct fs, L, E, tag, b, h => by
    simp only [Ty.typed, Bool.and_eq_true] at h
    exact deserTagged_bd _ _ _ tagDecDefault_np L (known_ne L h.1) _
      (decStructWith_bd (fieldsWeight fs) _ _ (fun y => decPos_bd fs y h.2)
        (fun t y idx r ha => armFind_bd fs t 0 y idx r h.2 ha) fs (length_le_weight fs)) tag b
  | .opt t, L, E, tag, b, h => by
    simp only [Ty.typed] at h
    simp only [Ty.de, Ty.weight]
    cases tag with
    | some tg => simp only; exact Bd_some (Ty.de_bd t L E (some tg) b h)
    | none =>
      have ih := Ty.de_bd t L E none b h
      simp only
      cases hd : Ty.de t L E none b with
      | error e =>
        rw [hd] at ih
        have he : e.isPanic = false := ih
        simp only [he]
        exact ⟨Nat.le_refl _, by simp [Val.size]⟩
      | ok p => rw [hd] at ih; exact Bd_some ih
  | .vec t, L, E, tag, b, h => by
    simp only [Ty.typed] at h
    simp only [Ty.de, Ty.weight]
    refine (vecLoop_bd (Ty.weight t) _ (fun x => Ty.de_bd t L E tag x h) (b.length + 1) b [] (by omega)).imp ?_
    intro p ⟨h1, h2⟩
    simp only [Val.sizeList, Nat.add_zero] at h2
    exact ⟨h1, vec_weight _ _ _ h2⟩
theorem decPos_bd : ∀ (fs : List Field) (b : Bytes), fieldsTyped fs = true →
    Bd Val.sizeList (fieldsWeight fs) (decPos fs b) b
  | [], b, _ => by simp [decPos, Bd, Res.Post, Val.sizeList]
  | .mk _ tag L E ty :: fs, b, h => by
    simp only [fieldsTyped, Bool.and_eq_true] at h
    simp only [decPos, fieldsWeight]
    cases tag with
    | some tg => exact (decPos_bd fs b h.2).mono (Nat.le_add_left _ _) (Nat.le_refl _)
    | none =>
      have h1 := Ty.de_bd ty L E none b h.1
      simp only
      cases hd : Ty.de ty L E none b with
      | error e => rw [hd] at h1; exact h1
      | ok p =>
        obtain ⟨v, r⟩ := p
        rw [hd] at h1
        obtain ⟨a1, a2⟩ := h1
        have h2 := decPos_bd fs r h.2
        simp only at a1 a2 ⊢
        cases hd2 : decPos fs r with
        | error e => rw [hd2] at h2; exact h2
        | ok q =>
          obtain ⟨vs, r'⟩ := q
          rw [hd2] at h2
          obtain ⟨b1, b2⟩ := h2
          simp only at b1 b2 ⊢
          refine ⟨Nat.le_trans b1 a1, ?_⟩
          have := SizeBound.combine_le (Ty.weight ty) (fieldsWeight fs) (b.length - r.length) (r.length - r'.length)
          rw [Nat.sub_add_sub_cancel a1 b1] at this
          exact Nat.le_trans (Nat.add_le_add a2 b2) this
theorem armFind_bd : ∀ (fs : List Field) (t i : Nat) (x : Bytes) (idx : Nat) (r : Res (Val × Bytes)),
    fieldsTyped fs = true → armFind fs t i x = some (idx, r) → Bd Val.size (fieldsWeight fs) r x
  | [], t, i, x, idx, r, _, ha => by simp [armFind] at ha
  | .mk _ tag L E ty :: fs, t, i, x, idx, r, h, ha => by
    simp only [fieldsTyped, Bool.and_eq_true] at h
    simp only [armFind] at ha
    simp only [fieldsWeight]
    split at ha
    · have he := Option.some.inj ha
      rw [← (Prod.mk.inj he).2]
      exact (Ty.de_bd ty L E (some t) x h.1).mono (Nat.le_add_right _ _) (Nat.le_refl _)
    · exact (armFind_bd fs t (i + 1) x idx r h.2 ha).mono (Nat.le_add_left _ _) (Nat.le_refl _)
end

theorem Ty.de_np (t : Ty) (L : LenKind) (E : Enc) (tag : Option Nat) (b : Bytes) (h : Ty.typed t L E = true) :
    NP (Ty.de t L E tag b) b := (Ty.de_bd t L E tag b h).np

theorem Ty.de_sb (t : Ty) (L : LenKind) (E : Enc) (tag : Option Nat) (b : Bytes) (h : Ty.typed t L E = true) :
    SB (Ty.weight t) (Ty.de t L E tag b) b := (Ty.de_bd t L E tag b h).sb

theorem decPos_sb (fs : List Field) (b : Bytes) (vs : List Val) (r : Bytes) (h : fieldsTyped fs = true)
    (hd : decPos fs b = .ok (vs, r)) :
    r.length ≤ b.length ∧ Val.sizeList vs ≤ fieldsWeight fs * (1 + (b.length - r.length)) := by
  have := decPos_bd fs b h; rw [hd] at this; exact this

theorem Bd.of_np_sb {W : Nat} {r : Res (Val × Bytes)} {b : Bytes} (hn : NP r b) (hs : SB W r b) : Bd Val.size W r b := by
  cases r with
  | error e => exact NP_err_of hn rfl
  | ok p => exact hs p.1 p.2 rfl

theorem deserTagged_sb' (W : Nat) (tagDec : Bytes → Res (Nat × Bytes)) (htd : ∀ x, NP (tagDec x) x)
    (L : LenKind) (hL : ∀ s, L ≠ .unknown s) (dec : Bytes → Res (Val × Bytes))
    (hdec : ∀ x, NP (dec x) x) (hsb : ∀ x, SB W (dec x) x) (tag : Option Nat) (b : Bytes) :
    SB W (deserTagged tagDec L dec tag b) b :=
  (deserTagged_bd _ W tagDec htd L hL dec (fun x => .of_np_sb (hdec x) (hsb x)) tag b).sb

theorem armFind_sb (fs : List Field) (t i : Nat) (x : Bytes) (idx : Nat) (r : Res (Val × Bytes)) (h : fieldsTyped fs = true)
    (ha : armFind fs t i x = some (idx, r)) : SB (fieldsWeight fs) r x := (armFind_bd fs t i x idx r h ha).sb


theorem decStruct_bd (fs : List Field) (h : fieldsTyped fs = true) (b : Bytes) :
    Bd Val.size (1 + 3 * fieldsWeight fs) (decStruct fs b) b :=
  decStructWith_bd (fieldsWeight fs) _ _ (fun y => decPos_bd fs y h) (fun t y idx r ha => armFind_bd fs t 0 y idx r h ha)
    fs (length_le_weight fs) b

theorem decStruct_np (fs : List Field) (h : fieldsTyped fs = true) (b : Bytes) : NP (decStruct fs b) b :=
  (decStruct_bd fs h b).np

end Zvt
