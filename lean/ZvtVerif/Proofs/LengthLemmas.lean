/-
  LengthLemmas.lean — the length prefixes of Length.lean: the LLVAR reader as a `takeDec`; what the two binary styles
  write (`tlv_ser_eq`, `adpu_ser_eq`), which forms their readers accept (`tlvDe_one` …, `tlvDe_reads`, `adpuDe_reads`) and
  that a proper prefix of a written length is incomplete; totality of every prefix parser (`lenDe_np`).
-/
import ZvtVerif.Length
import ZvtVerif.Proofs.BytesLemmas
namespace Zvt

theorem llvSerRev_length (n k : Nat) : (llvSerRev n k).length = n := by
  induction n generalizing k with
  | zero => simp [llvSerRev]
  | succ n ih => simp [llvSerRev, ih]

/-- value of a digit string as `LlvImpl::deserialize` accumulates it. -/
def llvVal (acc : Nat) (xs : Bytes) : Nat := xs.foldl (fun a x => a * 10 + x.toNat % 16) acc

theorem llvDe_eq (n : Nat) : ∀ (acc : Nat) (b : Bytes), llvDe n acc b = takeDec n (llvVal acc) b := by
  induction n with
  | zero => intro acc b; simp [llvDe, llvVal, takeDec]
  | succ n ih =>
    intro acc b
    cases b with
    | nil => simp [llvDe, takeDec]
    | cons x xs => simp [llvDe, ih, llvVal, takeDec]

theorem llvVal_ser (n : Nat) : ∀ (k acc : Nat), k < 10 ^ n → llvVal acc (llvSerRev n k).reverse = acc * 10 ^ n + k := by
  induction n with
  | zero => intro k acc h; simp at h; simp [llvSerRev, llvVal, h]
  | succ n ih =>
    intro k acc h
    rw [Nat.pow_succ, Nat.mul_comm] at h
    have := ih (k / 10) acc (Nat.div_lt_of_lt_mul h)
    simp only [llvVal] at this ⊢
    simp only [llvSerRev, List.reverse_cons, List.foldl_append, this, List.foldl_cons, List.foldl_nil]
    rw [(byte_nibbles 15 (k % 10) (by decide) (mod_ten_lt k)).2, Nat.pow_succ, ← Nat.mul_assoc, Nat.add_mul, Nat.add_assoc,
      Nat.div_add_mod']

/-- the decoder applied to the (MSD-first) digits, with any accumulator and any bytes behind. -/
theorem llvDe_ser (n k acc : Nat) (d : Bytes) (h : k < 10 ^ n) :
    llvDe n acc ((llvSerRev n k).reverse ++ d) = .ok (acc * 10 ^ n + k, d) := by
  have := takeDec_left (llvVal acc) (llvSerRev n k).reverse d
  rwa [List.length_reverse, llvSerRev_length, ← llvDe_eq, llvVal_ser n k acc h] at this

theorem llvDe_short (n acc : Nat) (p : Bytes) (h : p.length < n) : llvDe n acc p = .error .incomplete := by
  rw [llvDe_eq]; exact takeDec_short n _ p h

theorem llvDe_append (n acc : Nat) (b x : Bytes) (v : Nat) (r : Bytes)
    (h : llvDe n acc b = .ok (v, r)) : llvDe n acc (b ++ x) = .ok (v, r ++ x) := by
  rw [llvDe_eq] at h ⊢; exact (takeDec_reads n _ b).append x h

theorem llvDe_np (n acc : Nat) (b : Bytes) : NP (llvDe n acc b) b := by
  rw [llvDe_eq]; exact (takeDec_reads n _ b).np

/-! ### what the two binary styles write

`LenKind.ser` by the switching points of the format (`<`, as the reader and the reference encoder have them),
with the bytes written out: what the shortest-form, truncation and reference-encoder facts are read off. -/

theorem tlv_ser_eq (n : Nat) (h : n ≤ 65535) :
    LenKind.tlv.ser n = .ok (if n < 128 then [byte n] else if n < 256 then [0x81, byte n]
      else [0x82, byte (n / 256), byte (n % 256)]) := by
  simp only [LenKind.ser]
  by_cases h1 : n < 128
  · rw [if_pos h1, if_pos (Nat.le_of_lt_succ h1)]
  by_cases h2 : n < 256
  · rw [if_neg h1, if_pos h2, if_neg (fun hc => h1 (Nat.lt_succ_of_le hc)), if_pos (Nat.le_of_lt_succ h2)]
  · rw [if_neg h1, if_neg h2, if_neg (fun hc => h1 (Nat.lt_succ_of_le hc)), if_neg (fun hc => h2 (Nat.lt_succ_of_le hc)),
      if_pos h, beBytes_two n (Nat.lt_succ_of_le h)]

theorem adpu_ser_eq (n : Nat) (h : n ≤ 65535) :
    LenKind.adpu.ser n = .ok (if n < 255 then [byte n] else [0xff, byte (n % 256), byte (n / 256)]) := by
  have h' : n < 65536 := Nat.lt_succ_of_le h
  simp only [LenKind.ser]
  by_cases h1 : n < 255
  · rw [if_pos h1, if_pos h1]
  · rw [if_neg h1, if_neg h1, Nat.mod_eq_of_lt h']
    simp only [leBytes, Nat.mod_eq_of_lt (show n / 256 < 256 from Nat.div_lt_of_lt_mul h')]

theorem tlvDe_one (x : UInt8) (d : Bytes) (h : x.toNat ≤ 127) : LenKind.tlv.de (x :: d) = .ok (x.toNat, d) := if_pos h

theorem tlvDe_two (l : UInt8) (d : Bytes) : LenKind.tlv.de (0x81 :: l :: d) = .ok (l.toNat, d) := rfl

theorem tlvDe_three (hi lo : UInt8) (d : Bytes) :
    LenKind.tlv.de (0x82 :: hi :: lo :: d) = .ok (hi.toNat * 256 + lo.toNat, d) := rfl

theorem adpuDe_one (x : UInt8) (d : Bytes) (h : x.toNat ≠ 0xff) : LenKind.adpu.de (x :: d) = .ok (x.toNat, d) := if_neg h

theorem adpuDe_three (lo hi : UInt8) (d : Bytes) :
    LenKind.adpu.de (0xff :: lo :: hi :: d) = .ok (lo.toNat + 256 * hi.toNat, d) := rfl

theorem tlvDe_reads (b : Bytes) : ReadsPrefix LenKind.tlv.de b := by
  match b with
  | [] => exact .inl ⟨_, rfl, rfl⟩
  | d :: rest =>
    by_cases h1 : d.toNat ≤ 127
    · exact .inr ⟨[d], rest, _, rfl, fun x => tlvDe_one d x h1⟩
    by_cases h2 : d.toNat = 0x81
    · obtain rfl : d = 0x81 := UInt8.toNat_inj.mp h2
      match rest with
      | [] => exact .inl ⟨_, rfl, rfl⟩
      | l :: r => exact .inr ⟨[0x81, l], r, _, rfl, tlvDe_two l⟩
    by_cases h3 : d.toNat = 0x82
    · obtain rfl : d = 0x82 := UInt8.toNat_inj.mp h3
      match rest with
      | [] | [_] => exact .inl ⟨_, rfl, rfl⟩
      | hi :: lo :: r => exact .inr ⟨[0x82, hi, lo], r, _, rfl, tlvDe_three hi lo⟩
    · exact .inl ⟨.nonImplemented, by simp only [LenKind.de, if_neg h1, if_neg h2, if_neg h3], rfl⟩

theorem adpuDe_reads (b : Bytes) : ReadsPrefix LenKind.adpu.de b := by
  match b with
  | [] => exact .inl ⟨_, rfl, rfl⟩
  | d :: rest =>
    by_cases h1 : d.toNat = 0xff
    · obtain rfl : d = 0xff := UInt8.toNat_inj.mp h1
      match rest with
      | [] | [_] => exact .inl ⟨_, rfl, rfl⟩
      | lo :: hi :: r => exact .inr ⟨[0xff, lo, hi], r, _, rfl, adpuDe_three lo hi⟩
    · exact .inr ⟨[d], rest, _, rfl, fun x => adpuDe_one d x h1⟩

theorem tlv_prefix_incomplete (n : Nat) (h : n ≤ 65535) (w : Bytes) (hw : LenKind.tlv.ser n = .ok w) (k : Nat)
    (hk : k < w.length) : LenKind.tlv.de (w.take k) = .error .incomplete := by
  rw [tlv_ser_eq n h] at hw
  cases hw
  revert hk
  split
  · intro hk
    match k, hk with
    | 0, _ => rfl
  split
  · intro hk
    match k, hk with
    | 0, _ | 1, _ => rfl
  · intro hk
    match k, hk with
    | 0, _ | 1, _ | 2, _ => rfl

theorem adpu_prefix_incomplete (n : Nat) (h : n ≤ 65535) (w : Bytes) (hw : LenKind.adpu.ser n = .ok w) (k : Nat)
    (hk : k < w.length) : LenKind.adpu.de (w.take k) = .error .incomplete := by
  rw [adpu_ser_eq n h] at hw
  cases hw
  revert hk
  split
  · intro hk
    match k, hk with
    | 0, _ => rfl
  · intro hk
    match k, hk with
    | 0, _ | 1, _ | 2, _ => rfl

theorem lenDe_np (L : LenKind) (hL : ∀ s, L ≠ .unknown s) (b : Bytes) : NP (L.de b) b := by
  cases L with
  | empty => exact NP_ok _ _ _ (Nat.le_refl _)
  | fixed | temperature =>
    simp only [LenKind.de]
    split
    · exact NP_error _ _ rfl
    · exact NP_ok _ _ _ (Nat.le_refl _)
  | llv k => exact llvDe_np k 0 b
  | unknown s => exact absurd rfl (hL s)
  | tlv => exact (tlvDe_reads b).np
  | adpu => exact (adpuDe_reads b).np

end Zvt
