/-
  ClientWrites.lean — EVERYTHING the client writes, on every connection, over whole operations.

  `Wrote P w w'`: going from world `w` to world `w'` the client appended packets to the per-connection traffic
  (`World.sentOn`), and every packet it appended — on whatever connection, old or newly opened — satisfies `P`;
  nothing that was sent before is changed or removed. Lifted from one attempt (`runItems_writes`: the command,
  then acknowledgements) and one handshake (`connect_traffic`: registration, identity request, acknowledgements) over
  the retry loop with its reconnects to every operation of the client.
-/
import ZvtVerif.Proofs.ClientOps
namespace Zvt

/-- the live connection (if any) is one of the slots of the world. -/
def ConnOK (w : World) : Prop := ∀ c, w.conn = some c → c.id < w.logs.length

/-- between `w` and `w'` only packets satisfying `P` were written (on any connection); earlier traffic is a prefix. -/
def WroteOnly (P : Bytes → Prop) (w w' : World) : Prop :=
  ∀ k, ∃ e, w'.sentOn k = w.sentOn k ++ e ∧ ∀ p ∈ e, P p

/-- well-formedness is kept and only `P`-packets are written. -/
structure Wrote (P : Bytes → Prop) (w w' : World) : Prop where
  ok : ConnOK w'
  only : WroteOnly P w w'

theorem WroteOnly.refl (P : Bytes → Prop) (w : World) : WroteOnly P w w :=
  fun _ => ⟨[], by simp, by simp⟩

theorem WroteOnly.trans {P : Bytes → Prop} {a b c : World} (h1 : WroteOnly P a b) (h2 : WroteOnly P b c) : WroteOnly P a c := by
  intro k
  obtain ⟨e1, he1, hp1⟩ := h1 k
  obtain ⟨e2, he2, hp2⟩ := h2 k
  refine ⟨e1 ++ e2, by rw [he2, he1, List.append_assoc], ?_⟩
  intro p hp
  rcases List.mem_append.mp hp with h | h
  · exact hp1 p h
  · exact hp2 p h

theorem WroteOnly.mono {P Q : Bytes → Prop} {a b : World} (h : WroteOnly P a b) (hpq : ∀ p, P p → Q p) : WroteOnly Q a b := by
  intro k
  obtain ⟨e, he, hp⟩ := h k
  exact ⟨e, he, fun p hm => hpq p (hp p hm)⟩

theorem WroteOnly.slot {P : Bytes → Prop} {a b : World} {k : Nat} (h : b.logs[k]? = a.logs[k]?) :
    ∃ e, b.sentOn k = a.sentOn k ++ e ∧ ∀ p ∈ e, P p :=
  ⟨[], by rw [sentOn_of_logs_eq a b k h, List.append_nil], nofun⟩

theorem Wrote.trans {P : Bytes → Prop} {a b c : World} (h1 : Wrote P a b) (h2 : Wrote P b c) : Wrote P a c :=
  ⟨h2.ok, h1.only.trans h2.only⟩

theorem Wrote.mono {P Q : Bytes → Prop} {a b : World} (h : Wrote P a b) (hpq : ∀ p, P p → Q p) : Wrote Q a b :=
  ⟨h.ok, h.only.mono hpq⟩

theorem Wrote.refl (P : Bytes → Prop) (w : World) (h : ConnOK w) : Wrote P w w := ⟨h, WroteOnly.refl P w⟩

theorem Wrote.of_clock (P : Bytes → Prop) (w : World) (t : Nat) (h : ConnOK w) : Wrote P w { w with now := t } :=
  ⟨h, fun _ => WroteOnly.slot rfl⟩

theorem sentOn_beyond (w : World) (k : Nat) (h : w.logs.length ≤ k) : w.sentOn k = [] := by
  simp [World.sentOn, List.getElem?_eq_none h, sent]

theorem wrote_runItems {σ ρ : Type} (d : SeqDesc) (timeout : Nat) (step : σ → Item → Step σ ρ)
    (fuel : Nat) (w : World) (c : ConnSt) (s : σ) (hl : c.id < w.logs.length) :
    Wrote (fun p => p = d.cmd ∨ p = ackBytes) w (runItems d timeout step fuel w c .start s).2.1 := by
  have hr := runItems_frame d timeout step fuel w c .start s
  refine ⟨fun c' hc' => by rw [hr.nlogs, hr.live c' hc']; exact hl, fun k => ?_⟩
  by_cases hk : k = c.id
  · subst hk
    obtain ⟨S, hS, hshape⟩ := runItems_writes d timeout step fuel w c .start s hl
    refine ⟨S, hS, ?_⟩
    rcases hshape with rfl | ⟨n, rfl⟩
    · nofun
    · exact fun p hp => (List.mem_cons.mp hp).imp id List.eq_of_mem_replicate
  · exact WroteOnly.slot (hr.others k hk)

theorem wrote_connect (cfg : Cfg) (w : World) (hnone : w.conn = none) :
    Wrote (fun p => p ∈ handshakePackets cfg) w (connect cfg w).1 := by
  have ⟨hn, hold⟩ := connect_slots cfg w
  refine ⟨fun c' hc' => ?_, fun k => ?_⟩
  · rcases connect_live cfg w c' hc' with h | h
    · rw [hn, h]; exact Nat.lt_succ_self _
    · rw [hnone] at h; cases h
  · rcases Nat.lt_trichotomy k w.logs.length with hk | rfl | hk
    · exact WroteOnly.slot (hold k hk)
    · exact ⟨_, by rw [sentOn_beyond w _ (Nat.le_refl _), List.nil_append], fun p hp => (connect_traffic cfg w).1.subset hp⟩
    · exact WroteOnly.slot (by rw [List.getElem?_eq_none (by omega), List.getElem?_eq_none (by omega)])

/-- what an exchange with all its retries may write: its command, acknowledgements, handshakes. -/
def ExchangeP (cfg : Cfg) (cmd : Bytes) (p : Bytes) : Prop := p = cmd ∨ p = ackBytes ∨ p ∈ handshakePackets cfg

/-- **one exchange of the client**, with all its retries: the command, acknowledgements, and the handshake packets of
the connections it had to open — nothing else, on no connection. -/
theorem wrote_runOp {σ ρ : Type} (cfg : Cfg) (seqName : String) (cmd : Bytes) (timeout : Nat)
    (step : σ → Item → Step σ ρ) (w : World) (s : σ) (h : ConnOK w) :
    Wrote (ExchangeP cfg cmd) w (runOp cfg seqName cmd timeout step w s).2 := by
  have := retryLoop_lift cfg (seqDesc seqName cmd) timeout step
    (fun w w' => ConnOK w → Wrote (ExchangeP cfg (seqDesc seqName cmd).cmd) w w')
    (Wrote.refl _) (fun h1 h2 h => (h1 h).trans (h2 (h1 h).ok))
    (Wrote.of_clock _)
    (fun w hc _ => (wrote_connect cfg w hc).mono (fun _ hp => Or.inr (Or.inr hp)))
    (fun w c s hc h => (wrote_runItems _ timeout step ITEM_FUEL w c s (h c hc)).mono
      (fun _ hp => hp.elim Or.inl (fun h1 => Or.inr (Or.inl h1))))
    ATTEMPTS none w s h
  rwa [seqDesc_cmd] at this

/-- command packets `C`, acknowledgements, handshake packets. -/
def Allowed (cfg : Cfg) (C : Bytes → Prop) (p : Bytes) : Prop := C p ∨ p = ackBytes ∨ p ∈ handshakePackets cfg

theorem Exchanges.wrote {cfg : Cfg} {T n : Nat} {C : Bytes → Prop} {a b : World} (h : Exchanges cfg T C n a b)
    (ha : ConnOK a) : Wrote (Allowed cfg C) a b :=
  h.lift (fun w w' => ConnOK w → Wrote (Allowed cfg C) w w') (Wrote.refl _)
    (fun h1 h2 h => (h1 h).trans (h2 (h1 h).ok))
    (fun name cmd f w s hc h => (wrote_runOp cfg name cmd T f w s h).mono
      fun _ hp => hp.elim (fun e => .inl (e ▸ hc)) .inr) ha

/-- `configure`: identity request, set-terminal-id, initialisation, then the clean-up commands. -/
theorem wrote_configure (cfg : Cfg) (cl : Client) (w : World) (h : ConnOK w) :
    Wrote (Allowed cfg (fun p => p = sysInfoCmd ∨ p = setTidCmd cfg ∨ p = initCmd cfg ∨ CleanupCmd cfg p)) w (configure cfg cl w).2.2 :=
  Exchanges.wrote (exchanges_configure (.inl rfl) (.inr (.inl rfl)) (.inr (.inr (.inl rfl))) (fun _ hp => .inr (.inr (.inr hp)))
    (eta3 _)) h

theorem wrote_readCard (cfg : Cfg) (w : World) (h : ConnOK w) :
    Wrote (ExchangeP cfg (readCardCmd cfg)) w (readCard cfg w).2 :=
  Exchanges.wrote (exchanges_readCard rfl (Prod.eta _).symm) h

/-- **begin** writes the one reservation request for ITS token (configured amount and currency) — or nothing. -/
theorem wrote_beginTx (cfg : Cfg) (cl : Client) (t : List Nat) (w : World) (h : ConnOK w) :
    Wrote (ExchangeP cfg (reservationCmd cfg t)) w (beginTx cfg cl t w).2.2 :=
  Exchanges.wrote (exchanges_beginTx rfl (eta3 _)) h

/-- **cancel** writes the reversal of the receipt recorded for ITS token and — only if no token remains open — the
clean-up commands. -/
theorem wrote_cancelTx (cfg : Cfg) (cl : Client) (t : List Nat) (w : World) (h : ConnOK w) :
    Wrote (Allowed cfg (fun p => (∃ r, cl.txs.find? (·.1 = t) = some (t, r) ∧ p = reversalCmd cfg r) ∨
      (cl.txs.filter (·.1 ≠ t) = [] ∧ CleanupCmd cfg p))) w (cancelTx cfg cl t w).2.2 :=
  Exchanges.wrote (exchanges_cancelTx (fun r hf => .inl ⟨r, hf, rfl⟩) (fun he _ hp => .inr ⟨he, hp⟩) (eta3 _)) h

/-- **commit** writes the partial reversal carrying the receipt recorded for ITS token and the unused amount, and — only
if no token remains open — the clean-up commands. -/
theorem wrote_commitTx (cfg : Cfg) (cl : Client) (t : List Nat) (f : Nat) (w : World) (h : ConnOK w) :
    Wrote (Allowed cfg (fun p => (∃ r, cl.txs.find? (·.1 = t) = some (t, r) ∧ p = commitCmd cfg t r f) ∨
      (cl.txs.filter (·.1 ≠ t) = [] ∧ CleanupCmd cfg p))) w (commitTx cfg cl t f w).2.2 :=
  Exchanges.wrote (exchanges_commitTx (fun r hf => .inl ⟨r, hf, rfl⟩) (fun he _ hp => .inr ⟨he, hp⟩) (eta3 _)) h

end Zvt
