/-
  NoPanic.lean — totality below the schema level: no Rust panic (index / slice / arithmetic / unwrap), no
  non-termination (`outOfFuel`), and the remainder handed back is never longer than the input — for the generic
  `<TAG><LENGTH><DATA>` triple (`deserTagged_bd`) and the leaf decoders with a loop or a guard (BCD, receipt number,
  date-time). `Bd sz W` is the one outcome predicate the combinators are walked with: `NP` is its instance without a
  size, `NP ∧ SB W` (SizeBound.lean) the one with `sz := Val.size`. At the end the typing predicates (`leafTyped`,
  `LenKind.known`, `Ty.typed`, `fieldsTyped`) under which every schema is total; the induction over schemas
  (`Ty.de_bd`, hence `Ty.de_np`, `decStruct_np`) is in SizeBound.lean, where it also yields the size bound.
-/
import ZvtVerif.Proofs.DeriveLemmas
import ZvtVerif.Proofs.EncodingLemmas
import ZvtVerif.Proofs.LengthLemmas
namespace Zvt

/-- the result is no panic (and no fuel exhaustion), and a value satisfies `Q`. -/
def Res.Post {β : Type} (r : Res β) (Q : β → Prop) : Prop :=
  match r with
  | .error e => e.isPanic = false
  | .ok x => Q x

theorem Res.Post.imp {β : Type} {r : Res β} {Q Q' : β → Prop} (h : r.Post Q) (hq : ∀ x, Q x → Q' x) : r.Post Q' := by
  cases r with
  | error e => exact h
  | ok x => exact hq x h

/-- outcome of a decoder on input `b`: an error that is no panic, or a value of size at most
`W × (1 + consumed)` and a remainder no longer than `b`. -/
def Bd {α : Type} (sz : α → Nat) (W : Nat) (r : Res (α × Bytes)) (b : Bytes) : Prop :=
  r.Post fun p => p.2.length ≤ b.length ∧ sz p.1 ≤ W * (1 + (b.length - p.2.length))

theorem Bd.np {α : Type} {sz : α → Nat} {W : Nat} {r : Res (α × Bytes)} {b : Bytes} (h : Bd sz W r b) : NP r b := by
  cases r with
  | error e => exact NP_error _ _ h
  | ok p => exact NP_ok _ _ _ h.1

theorem NP.bd {α : Type} {r : Res (α × Bytes)} {b : Bytes} (h : NP r b) (W : Nat) : Bd (fun _ => 0) W r b := by
  cases r with
  | error e => exact NP_err_of h rfl
  | ok p => exact ⟨h.2 _ _ rfl, Nat.zero_le _⟩

theorem Bd.mul_mono {W W' c c' : Nat} (hW : W ≤ W') (hc : c ≤ c') : W * (1 + c) ≤ W' * (1 + c') :=
  Nat.mul_le_mul hW (by omega)

theorem Bd.mono {α : Type} {sz : α → Nat} {W W' : Nat} {r : Res (α × Bytes)} {b b' : Bytes} (h : Bd sz W r b)
    (hW : W ≤ W') (hl : b.length ≤ b'.length) : Bd sz W' r b' := by
  cases r with
  | error e => exact h
  | ok p => exact ⟨Nat.le_trans h.1 hl, Nat.le_trans h.2 (Bd.mul_mono hW (by have := h.1; omega))⟩

/-- the remainder `deserTagged` hands back: of `bl` bytes, `pl` follow the length prefix, `n` of them are payload and
the payload's decoder left `rl`; what is handed back is no longer than the input, and what the payload's decoder
consumed was consumed of the input. -/
theorem Bd.slice_arith {bl pl n : Nat} (rl : Nat) (hp : pl ≤ bl) (hn : n ≤ pl) :
    pl - (n - rl) ≤ bl ∧ n - rl ≤ bl - (pl - (n - rl)) :=
  have hk : n - rl ≤ pl := Nat.le_trans (Nat.sub_le n rl) hn
  ⟨Nat.le_trans (Nat.sub_le _ _) hp, Nat.le_trans (Nat.le_of_eq (Nat.sub_sub_self hk).symm) (Nat.sub_le_sub_right hp _)⟩

/-- **the generic `<TAG><LENGTH><DATA>` decoder is total and passes the payload's bound on**: the length check
in front of the slice and the (never negative) remainder computation make every shim failure unreachable.
The untagged case is walked; the tagged one reduces to it. -/
theorem deserTagged_bd {α : Type} (sz : α → Nat) (W : Nat) (tagDec : Bytes → Res (Nat × Bytes)) (htd : ∀ x, NP (tagDec x) x)
    (L : LenKind) (hL : ∀ s, L ≠ .unknown s) (dec : Bytes → Res (α × Bytes))
    (hdec : ∀ x, Bd sz W (dec x) x) (tag : Option Nat) (b : Bytes) : Bd sz W (deserTagged tagDec L dec tag b) b := by
  have untagged : ∀ b, Bd sz W (deserTagged tagDec L dec none b) b := by
    intro b
    simp only [deserTagged, stripTag]
    have hl := lenDe_np L hL b
    cases hld : L.de b with
    | error e => exact NP_err_of hl hld
    | ok q =>
      obtain ⟨n, p⟩ := q
      have hp := hl.2 n p hld
      simp only
      split
      · exact (rfl : Err.incomplete.isPanic = false)
      · have hd := hdec (p.take n)
        cases hdd : dec (p.take n) with
        | error e => rw [hdd] at hd; exact hd
        | ok w =>
          obtain ⟨v, rem⟩ := w
          rw [hdd] at hd
          obtain ⟨hr, hsz⟩ := hd
          have hn : n ≤ p.length := Nat.le_of_not_lt ‹_›
          simp only [List.length_take, Nat.min_eq_left hn] at hr hsz
          have ⟨h1, h2⟩ := Bd.slice_arith rem.length hp hn
          simp only [if_neg (Nat.not_lt.mpr hr)]
          exact ⟨by rwa [List.length_drop], Nat.le_trans hsz (Bd.mul_mono (Nat.le_refl W) (by rwa [List.length_drop]))⟩
  cases tag with
  | none => exact untagged b
  | some t =>
    rw [deserTagged_some]
    have ht := htd b
    cases htd' : tagDec b with
    | error e => exact NP_err_of ht htd'
    | ok p =>
      obtain ⟨a, r⟩ := p
      simp only
      split
      · exact (rfl : (Err.wrongTag a).isPanic = false)
      · exact (untagged r).mono (Nat.le_refl _) (ht.2 a r htd')

theorem deserTagged_np {α : Type} (L : LenKind) (hL : ∀ s, L ≠ .unknown s) (dec : Bytes → Res (α × Bytes))
    (hdec : ∀ x, NP (dec x) x) (tag : Option Nat) (b : Bytes) : NP (deserTagged tagDecDefault L dec tag b) b :=
  (deserTagged_bd (fun _ => 0) 0 tagDecDefault tagDecDefault_np L hL dec (fun x => (hdec x).bd 0) tag b).np

theorem deserTagged_some_lt {α : Type} (L : LenKind) (hL : ∀ s, L ≠ .unknown s) (dec : Bytes → Res (α × Bytes))
    (hdec : ∀ x, NP (dec x) x) (t : Nat) (b : Bytes) (v : α) (r : Bytes)
    (h : deserTagged tagDecDefault L dec (some t) b = .ok (v, r)) : r.length < b.length := by
  rw [deserTagged_some] at h
  split at h
  · cases h
  · rename_i a r0 htd
    split at h
    · cases h
    · exact Nat.lt_of_le_of_lt ((deserTagged_np L hL dec hdec none r0).2 v r h) (tagDecDefault_lt b a r0 htd)

theorem bcdDec_np (w : Nat) (b : Bytes) : NP (bcdDec w b) b := by
  rw [bcdDec_spec]
  split
  · exact NP_ok _ _ _ (Nat.zero_le _)
  · exact NP_error _ _ rfl

theorem prrnDec_np (w : Nat) (b : Bytes) : NP (prrnDec w b) b := by
  unfold prrnDec
  match b with
  | [] | [_] => exact NP_error _ _ rfl
  | b0 :: b1 :: rest =>
    simp only
    split
    · exact NP_ok _ _ _ (by simp; omega)
    · have := bcdDec_np w [b0, b1]
      cases h : bcdDec w [b0, b1] with
      | error e => simp only; exact NP_error _ _ (NP_err_of this h)
      | ok p => obtain ⟨n, r⟩ := p; simp only; exact NP_ok _ _ _ (by simp; omega)

/-- the date-time loop: each round consumes at least the tag, so `length + 1` rounds of fuel suffice. -/
theorem dtLoop_np : ∀ (fuel : Nat) (data : Bytes) (acc : DtAcc), data.length < fuel → NP (dtLoop fuel data acc) data := by
  intro fuel
  induction fuel with
  | zero => intro data acc h; omega
  | succ fuel ih =>
    intro data acc hf
    rw [dtLoop]
    by_cases he : data.isEmpty = true
    · rw [if_pos he]; exact NP_ok _ _ _ (Nat.le_refl _)
    · rw [if_neg he]
      have htag := tagDecDefault_np data
      cases htd : tagDecDefault data with
      | error e => exact NP_error _ _ (NP_err_of htag htd)
      | ok p =>
        obtain ⟨t, r0⟩ := p
        -- the two fields are read alike: `w` bytes of BCD under tag `tg` into a slot of the accumulator
        have sub : ∀ (w : Nat) (tg : Nat) (acc' : Nat → DtAcc),
            NP (match deserTagged tagDecDefault .tlv (bcdDec w) (some tg) data with
                    | .error e => (.error e : Res (DtAcc × Bytes))
                    | .ok (d, rest) => dtLoop fuel rest (acc' d)) data := by
          intro w tg acc'
          have hd := deserTagged_np .tlv (by intro s h; cases h) (bcdDec w) (bcdDec_np w) (some tg) data
          cases hdd : deserTagged tagDecDefault .tlv (bcdDec w) (some tg) data with
          | error e => exact NP_error _ _ (NP_err_of hd hdd)
          | ok q =>
            obtain ⟨d, rest⟩ := q
            have hlt := deserTagged_some_lt .tlv (by intro s h; cases h) (bcdDec w) (bcdDec_np w) tg data d rest hdd
            exact NP_mono _ _ _ (ih rest (acc' d) (Nat.lt_of_lt_of_le hlt (Nat.le_of_lt_succ hf))) (Nat.le_of_lt hlt)
        show NP (if t = 0x1f0e then _ else _) data
        by_cases h1 : t = 0x1f0e
        · rw [if_pos h1]
          by_cases hs : acc.date.isSome = true
          · rw [if_pos hs]; exact NP_error _ _ rfl
          · rw [if_neg hs]; exact sub 8 0x1f0e (fun d => { acc with date := some d })
        rw [if_neg h1]
        by_cases h2 : t = 0x1f0f
        · rw [if_pos h2]
          by_cases hs : acc.time.isSome = true
          · rw [if_pos hs]; exact NP_error _ _ rfl
          · rw [if_neg hs]; exact sub 4 0x1f0f (fun d => { acc with time := some d })
        · rw [if_neg h2]; exact NP_ok _ _ _ (Nat.le_refl _)

theorem dtDecode_post (b : Bytes) : (dtDecode b).Post fun p => p.2.length ≤ b.length ∧ ∃ d t, p.1 = .dt d t := by
  unfold dtDecode
  have h := dtLoop_np (b.length + 1) b {} (Nat.lt_succ_self _)
  cases hd : dtLoop (b.length + 1) b {} with
  | error e => exact NP_err_of h hd
  | ok p =>
    obtain ⟨acc, rest⟩ := p
    simp only
    split
    · split
      · exact ⟨h.2 acc rest hd, _, _, rfl⟩
      · exact rfl
    · exact rfl

/-- the (encoding, type) combinations the builder implements. The same nine rows as `leafShape` (CanonDomain.lean), spelled
twice because each is in the hypothesis of a property theorem (this one of C02, that one of C01; DESIGN §5.5). -/
def leafTyped : Enc → Ty → Bool
  | .dflt, .int _ => true | .bigEndian, .int _ => true | .bcd, .int _ => true | .prrn, .int _ => true
  | .dflt, .str => true | .hex, .str => true | .utf8, .str => true
  | .custom, .bytes => true
  | .dflt, .dateTime => true
  | _, _ => false

/-- every style but `unknown`, which the translator writes for a length type it does not recognise and the model reads
and writes as a panic (the other six readers are total: `lenDe_np`). Hypothesis of C02, through `Ty.typed`. -/
def LenKind.known : LenKind → Bool
  | .unknown _ => false
  | _ => true

theorem known_ne (L : LenKind) (h : L.known = true) : ∀ s, L ≠ .unknown s := by
  intro s hs; subst hs; simp [LenKind.known] at h

mutual
/-- every (length, encoding, type) triple in the schema is one the builder implements. -/
def Ty.typed : Ty → LenKind → Enc → Bool
  | .int w, L, E => L.known && leafTyped E (.int w)
  | .str, L, E => L.known && leafTyped E .str
  | .bytes, L, E => L.known && leafTyped E .bytes
  | .dateTime, L, E => L.known && leafTyped E .dateTime
  | .struct fs, L, _ => L.known && fieldsTyped fs
  | .opt t, L, E => Ty.typed t L E
  | .vec t, L, E => Ty.typed t L E
def fieldsTyped : List Field → Bool
  | [] => true
  | .mk _ _ L E ty :: fs => Ty.typed ty L E && fieldsTyped fs
end

end Zvt
