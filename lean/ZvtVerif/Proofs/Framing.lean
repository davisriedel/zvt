/-
  Framing.lean — `readFrame` (Transport.lean) by its two packet forms, a length byte other than FF or FF and two length
  bytes (little endian) in front of that many body bytes: it frames each of them whatever follows (`readFrame_short`,
  `readFrame_long`), and a packet it frames is a prefix of its input that it frames the same way whatever follows
  (`readFrame_packet`); `readFrame_append` follows from that.
-/
import ZvtVerif.Transport
namespace Zvt

theorem readFrame_short (a b l : UInt8) (body x : Bytes) (hl : l ≠ 0xff) (hb : body.length = l.toNat) :
    readFrame (a :: b :: l :: (body ++ x)) = .packet (a :: b :: l :: body) x := by
  simp only [readFrame, hl, if_false, ← hb, List.length_append, Nat.not_lt.mpr (Nat.le_add_right _ _),
    List.take_left', List.drop_left']

theorem readFrame_long (a b lo hi : UInt8) (body x : Bytes) (hb : body.length = lo.toNat + 256 * hi.toNat) :
    readFrame (a :: b :: 0xff :: lo :: hi :: (body ++ x)) = .packet (a :: b :: 0xff :: lo :: hi :: body) x := by
  simp only [readFrame, if_true, if_false, ← hb, List.length_append, Nat.not_lt.mpr (Nat.le_add_right _ _),
    List.take_left', List.drop_left']

theorem readFrame_packet (s p r : Bytes) (h : readFrame s = .packet p r) :
    s = p ++ r ∧ ∀ x, readFrame (p ++ x) = .packet p x := by
  unfold readFrame at h
  match s, h with
  | a :: b :: l :: rest, h =>
    by_cases hl : l = 0xff
    · subst hl
      simp only [if_true] at h
      match rest, h with
      | lo :: hi :: rest', h =>
        by_cases hlen : rest'.length < lo.toNat + 256 * hi.toNat
        · simp [hlen] at h
        · simp only [hlen, if_false, ReadRes.packet.injEq] at h
          obtain ⟨rfl, rfl⟩ := h
          exact ⟨by simp, fun x => readFrame_long a b lo hi _ x (List.length_take_of_le (Nat.le_of_not_lt hlen))⟩
    · simp only [hl, if_false] at h
      by_cases hlen : rest.length < l.toNat
      · simp [hlen] at h
      · simp only [hlen, if_false, ReadRes.packet.injEq] at h
        obtain ⟨rfl, rfl⟩ := h
        exact ⟨by simp, fun x => readFrame_short a b l _ x hl (List.length_take_of_le (Nat.le_of_not_lt hlen))⟩

theorem readFrame_append (s p r x : Bytes) (h : readFrame s = .packet p r) :
    readFrame (s ++ x) = .packet p (r ++ x) := by
  rw [(readFrame_packet s p r h).1, List.append_assoc]
  exact (readFrame_packet s p r h).2 (r ++ x)

end Zvt
