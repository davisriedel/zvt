/-
  SchemaEq.lean — structural Boolean equality on schemas (`Ty.beq`, `Field.beq`, `StructDef.beq`, `EnumDef.beq` and their
  list forms). Sound: a kernel-evaluated `structsBeq … = true` is an equation between layouts (`C08.client_structs`).
  Reflexive: a Boolean covering statement about two tables follows from list inclusion (`covered_of_subset`,
  `C03.enums_cover_spec`).
-/
import ZvtVerif.Schema
namespace Zvt

mutual
def Ty.beq : Ty → Ty → Bool
  | .int a, .int b => a == b
  | .str, .str => true
  | .bytes, .bytes => true
  | .dateTime, .dateTime => true
  | .struct a, .struct b => Field.beqList a b
  | .opt a, .opt b => Ty.beq a b
  | .vec a, .vec b => Ty.beq a b
  | _, _ => false
def Field.beq : Field → Field → Bool
  | .mk n1 t1 l1 e1 ty1, .mk n2 t2 l2 e2 ty2 =>
    n1 == n2 && t1 == t2 && decide (l1 = l2) && decide (e1 = e2) && Ty.beq ty1 ty2
def Field.beqList : List Field → List Field → Bool
  | [], [] => true
  | a :: as, b :: bs => Field.beq a b && Field.beqList as bs
  | _, _ => false
end

mutual
theorem Ty.beq_sound : ∀ (a b : Ty), Ty.beq a b = true → a = b
  | .int a, b, h => by cases b <;> simp [Ty.beq] at h; rw [h]
  | .str, b, h | .bytes, b, h | .dateTime, b, h => by cases b <;> simp [Ty.beq] at h; rfl
  | .struct a, b, h => by cases b <;> simp only [Ty.beq, Bool.false_eq_true] at h; rw [Field.beqList_sound a _ h]
  | .opt a, b, h | .vec a, b, h => by cases b <;> simp only [Ty.beq, Bool.false_eq_true] at h; rw [Ty.beq_sound a _ h]
theorem Field.beq_sound : ∀ (a b : Field), Field.beq a b = true → a = b
  | .mk n1 t1 l1 e1 ty1, .mk n2 t2 l2 e2 ty2, h => by
    simp only [Field.beq, Bool.and_eq_true, beq_iff_eq, decide_eq_true_eq] at h
    obtain ⟨⟨⟨⟨h1, h2⟩, h3⟩, h4⟩, h5⟩ := h
    rw [h1, h2, h3, h4, Ty.beq_sound ty1 ty2 h5]
theorem Field.beqList_sound : ∀ (a b : List Field), Field.beqList a b = true → a = b
  | [], [], _ => rfl
  | a :: as, b :: bs, h => by
    simp only [Field.beqList, Bool.and_eq_true] at h
    rw [Field.beq_sound a b h.1, Field.beqList_sound as bs h.2]
  | [], _ :: _, h | _ :: _, [], h => by simp [Field.beqList] at h
end

def StructDef.beq (a b : StructDef) : Bool :=
  a.name == b.name && a.ctrl == b.ctrl && Field.beqList a.fields b.fields

theorem StructDef.beq_sound (a b : StructDef) (h : StructDef.beq a b = true) : a = b := by
  cases a; cases b
  simp only [StructDef.beq, Bool.and_eq_true, beq_iff_eq] at h
  obtain ⟨⟨h1, h2⟩, h3⟩ := h
  rw [StructDef.mk.injEq]
  exact ⟨h1, h2, Field.beqList_sound _ _ h3⟩

def structsBeq : List StructDef → List StructDef → Bool
  | [], [] => true
  | a :: as, b :: bs => StructDef.beq a b && structsBeq as bs
  | _, _ => false

theorem structsBeq_sound : ∀ (a b : List StructDef), structsBeq a b = true → a = b
  | [], [], _ => rfl
  | a :: as, b :: bs, h => by
    simp only [structsBeq, Bool.and_eq_true] at h
    rw [StructDef.beq_sound a b h.1, structsBeq_sound as bs h.2]
  | [], _ :: _, h | _ :: _, [], h => by simp [structsBeq] at h

def EnumDef.beq (a b : EnumDef) : Bool :=
  a.name == b.name && (a.variants.map (·.1)) == (b.variants.map (·.1)) && structsBeq (a.variants.map (·.2)) (b.variants.map (·.2))

def enumsBeq : List EnumDef → List EnumDef → Bool
  | [], [] => true
  | a :: as, b :: bs => EnumDef.beq a b && enumsBeq as bs
  | _, _ => false

/-! ### reflexivity, and covering from inclusion

`spec.all fun s => shipped.any (beq · s)` follows from `spec ⊆ shipped`; C03 has the inclusion of its two closed tables
from a sublist found by unifying the literals (`C03.enums_sublist`), so that no name is compared by evaluation. -/

mutual
theorem Ty.beq_refl : ∀ a : Ty, Ty.beq a a = true
  | .int _ => by simp [Ty.beq]
  | .str | .bytes | .dateTime => rfl
  | .struct fs => by simp only [Ty.beq]; exact Field.beqList_refl fs
  | .opt t | .vec t => by simp only [Ty.beq]; exact Ty.beq_refl t
theorem Field.beq_refl : ∀ f : Field, Field.beq f f = true
  | .mk _ _ _ _ ty => by simp [Field.beq, Ty.beq_refl ty]
theorem Field.beqList_refl : ∀ fs : List Field, Field.beqList fs fs = true
  | [] => rfl
  | f :: fs => by simp [Field.beqList, Field.beq_refl f, Field.beqList_refl fs]
end

theorem StructDef.beq_refl (s : StructDef) : StructDef.beq s s = true := by
  simp [StructDef.beq, Field.beqList_refl]

theorem structsBeq_refl : ∀ l : List StructDef, structsBeq l l = true
  | [] => rfl
  | s :: l => by simp [structsBeq, StructDef.beq_refl, structsBeq_refl l]

theorem EnumDef.beq_refl (e : EnumDef) : EnumDef.beq e e = true := by
  simp [EnumDef.beq, structsBeq_refl]

theorem covered_of_subset {α : Type} (r : α → α → Bool) (hr : ∀ a, r a a = true) {spec shipped : List α}
    (h : spec ⊆ shipped) : (spec.all fun s => shipped.any fun t => r t s) = true :=
  List.all_eq_true.mpr fun s hs => List.any_eq_true.mpr ⟨s, h hs, hr s⟩

end Zvt
