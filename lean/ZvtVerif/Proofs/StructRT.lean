/-
  StructRT.lean — compositional round trip of the generated `encode` / `decode` (C01, struct level):
  if every field of a struct round-trips with arbitrary trailing bytes, so does the struct.
  Positional fields first (the macro decodes them first), tagged fields with pairwise distinct numbers.
  The decoder half is ONE theorem, `struct_rt_tail`: the body in front of any tail on which the tag loop stops;
  the struct theorems, the nested struct as a field and the command frame are its corollaries.
-/
import ZvtVerif.Proofs.RoundTrip
import ZvtVerif.Properties.C13
namespace Zvt

/-- a positional field instance: field, value, and the bytes `serialize_tagged(None)` writes for it. -/
structure PF where
  f : Field
  v : Val
  bytes : Bytes

/-- the positional field round-trips whatever follows it. -/
def PF.OK (p : PF) : Prop :=
  p.f.tag = none ∧ Ty.ser p.f.ty p.f.len p.f.enc none p.v = .ok p.bytes ∧
  ∀ x, Ty.de p.f.ty p.f.len p.f.enc none (p.bytes ++ x) = .ok (p.v, x)

/-- the part of `PF.OK` that does not depend on what follows: positional, and these are the bytes written. -/
def PF.OK0 (p : PF) : Prop :=
  p.f.tag = none ∧ Ty.ser p.f.ty p.f.len p.f.enc none p.v = .ok p.bytes

theorem PF.OK.ok0 {p : PF} (h : p.OK) : p.OK0 := ⟨h.1, h.2.1⟩

/-- a tagged field instance: `present = false` is an absent `Option` (nothing is written). -/
structure TF where
  f : Field
  t : Nat
  v : Val
  bytes : Bytes
  present : Bool
  /-- `false` for a `Vec` field: its elements are read back only if what follows does not begin with the
  field's own number. -/
  strict : Bool := true

def TF.OK (q : TF) : Prop :=
  q.f.tag = some q.t ∧ Ty.ser q.f.ty q.f.len q.f.enc (some q.t) q.v = .ok q.bytes ∧
  (if q.present then
      q.bytes ≠ [] ∧ (∀ x, ∃ r, tagDecDefault (q.bytes ++ x) = .ok (q.t, r)) ∧
        ∀ x, (q.strict = true ∨ NoStart q.t x) → Ty.de q.f.ty q.f.len q.f.enc (some q.t) (q.bytes ++ x) = .ok (q.v, x)
   else q.bytes = [] ∧ q.f.ty.isOptional = true ∧ q.v = q.f.ty.dflt)

theorem PF.OK0.ser {p : PF} (h : p.OK0) : Ty.ser p.f.ty p.f.len p.f.enc p.f.tag p.v = .ok p.bytes := h.1 ▸ h.2

theorem TF.OK.ser {q : TF} (h : q.OK) : Ty.ser q.f.ty q.f.len q.f.enc q.f.tag q.v = .ok q.bytes := h.1 ▸ h.2.1

theorem tagged_of_ok (qs : List TF) (hqs : ∀ q ∈ qs, q.OK) : ∀ f ∈ qs.map (·.f), f.tag ≠ none := by
  intro f hf
  obtain ⟨q, hq, rfl⟩ := List.mem_map.mp hf
  rw [(hqs q hq).1]; simp

/-- `encode` writes the instances' bytes one after the other (positional or tagged alike). -/
theorem encFields_map {α : Type} (f : α → Field) (v : α → Val) (bs : α → Bytes) (fs : List Field) (vs : List Val)
    (rest : Bytes) (hrest : encFields fs vs = .ok rest) : ∀ (l : List α),
    (∀ a ∈ l, Ty.ser (f a).ty (f a).len (f a).enc (f a).tag (v a) = .ok (bs a)) →
    encFields (l.map f ++ fs) (l.map v ++ vs) = .ok (l.flatMap bs ++ rest)
  | [], _ => hrest
  | a :: l, h => by
    simp only [List.map_cons, List.cons_append, List.flatMap_cons, List.append_assoc, encFields_cons, h a (by simp),
      encFields_map f v bs fs vs rest hrest l fun x hx => h x (by simp [hx])]

/-- the positional fields are read back in front of the particular continuation `T` (for a field that decodes
whatever follows it this holds for every `T`; an absent positional optional is read back as absent only in front
of bytes its own decoder fails on). -/
def PosOn : List PF → Bytes → Prop
  | [], _ => True
  | p :: ps, T =>
    p.OK0 ∧ Ty.de p.f.ty p.f.len p.f.enc none (p.bytes ++ (ps.flatMap (·.bytes) ++ T)) = .ok (p.v, ps.flatMap (·.bytes) ++ T) ∧
    PosOn ps T

theorem posOn_of_ok : ∀ (ps : List PF) (T : Bytes), (∀ p ∈ ps, p.OK) → PosOn ps T
  | [], _, _ => trivial
  | p :: ps, T, h => ⟨(h p (by simp)).ok0, (h p (by simp)).2.2 _, posOn_of_ok ps T fun q hq => h q (by simp [hq])⟩

theorem posOn_ok0 : ∀ (ps : List PF) (T : Bytes), PosOn ps T → ∀ p ∈ ps, p.OK0
  | [], _, _ => by simp
  | _ :: ps, T, h => List.forall_mem_cons.mpr ⟨h.1, posOn_ok0 ps T h.2.2⟩

theorem decPos_on : ∀ (ps : List PF) (fs : List Field) (T : Bytes), PosOn ps T → (∀ f ∈ fs, f.tag ≠ none) →
    decPos (ps.map (·.f) ++ fs) (ps.flatMap (·.bytes) ++ T) = .ok (ps.map (·.v), T)
  | [], fs, T, _, hfs => decPos_tagged fs T hfs
  | p :: ps, fs, T, ⟨h0, hd, hrest⟩, hfs => by
    simp only [List.map_cons, List.cons_append, List.flatMap_cons, List.append_assoc]
    rw [decPos_cons_pos _ _ _ h0.1, hd]
    simp only [decPos_on ps fs T hrest hfs]

theorem decPos_pos (ps : List PF) (qs : List TF) (x : Bytes) (hps : ∀ p ∈ ps, p.OK) (hqs : ∀ q ∈ qs, q.OK) :
    decPos (ps.map (·.f) ++ qs.map (·.f)) (ps.flatMap (·.bytes) ++ x) = .ok (ps.map (·.v), x) :=
  decPos_on ps _ x (posOn_of_ok ps x hps) (tagged_of_ok qs hqs)

def groupsFrom (base : Nat) (qs : List TF) : List Group :=
  (qs.zipIdx base).filterMap fun x => if x.1.present then some ⟨x.1.t, x.2, x.1.v, x.1.bytes, x.1.strict⟩ else none

theorem mem_groupsFrom {base : Nat} {qs : List TF} {g : Group} : g ∈ groupsFrom base qs ↔
    ∃ j q, qs[j]? = some q ∧ q.present = true ∧ g = ⟨q.t, base + j, q.v, q.bytes, q.strict⟩ := by
  simp only [groupsFrom, List.mem_filterMap, Prod.exists, List.mk_mem_zipIdx_iff_le_and_getElem?_sub]
  constructor
  · rintro ⟨q, i, ⟨hle, hq⟩, h⟩
    split at h
    next hp => exact ⟨i - base, q, hq, hp, by rw [← Option.some.inj h, Nat.add_sub_cancel' hle]⟩
    next => cases h
  · rintro ⟨j, q, hq, hp, rfl⟩
    exact ⟨q, base + j, ⟨Nat.le_add_right .., by rwa [Nat.add_sub_cancel_left]⟩, by simp [hp]⟩

theorem flat_groupsFrom : ∀ (qs : List TF) (base : Nat), (∀ q ∈ qs, q.OK) → flat (groupsFrom base qs) = qs.flatMap (·.bytes)
  | [], _, _ => rfl
  | q :: qs, base, hok => by
    have ih := flat_groupsFrom qs (base + 1) fun r hr => hok r (by simp [hr])
    have hq := (hok q (by simp)).2.2
    simp only [groupsFrom] at ih ⊢
    cases hp : q.present <;> simp only [hp, Bool.false_eq_true, if_false, if_true] at hq
    · simp [hp, ih, hq.1]
    · simp [hp, flat_cons, ih]

theorem groupsFrom_nodup (qs : List TF) (base : Nat) (hnd : (qs.map (·.t)).Nodup) :
    ((groupsFrom base qs).map (·.t)).Nodup ∧ ((groupsFrom base qs).map (·.idx)).Nodup := by
  have hi := List.nodup_range' (s := base) (n := qs.length)
  rw [← List.zipIdx_map_fst base qs, List.map_map] at hnd
  rw [← List.zipIdx_map_snd base qs] at hi
  simp only [List.nodup_iff_pairwise_ne, List.pairwise_map] at hnd hi ⊢
  constructor
  · refine hnd.filterMap _ fun x y hxy g hg g' hg' => ?_
    split at hg <;> cases hg
    split at hg' <;> cases hg'
    exact hxy
  · refine hi.filterMap _ fun x y hxy g hg g' hg' => ?_
    split at hg <;> cases hg
    split at hg' <;> cases hg'
    exact hxy

theorem assemble_pos : ∀ (ps : List PF) (fs : List Field) (more : List Val) (acc : List (Nat × Val)) (i : Nat),
    (∀ p ∈ ps, p.OK0) →
    assemble (ps.map (·.f) ++ fs) (ps.map (·.v) ++ more) acc i = ps.map (·.v) ++ assemble fs more acc (i + ps.length)
  | [], _, _, _, _, _ => rfl
  | p :: ps, fs, more, acc, i, hok => by
    simp only [List.map_cons, List.cons_append, assemble, (hok p (by simp)).1, List.length_cons,
      assemble_pos ps fs more acc (i + 1) fun r hr => hok r (by simp [hr])]
    rw [show i + 1 + ps.length = i + (ps.length + 1) from by omega]

theorem assemble_tagged : ∀ (qs : List TF) (acc : List (Nat × Val)) (i : Nat), (∀ q ∈ qs, q.OK) →
    (∀ j q, qs[j]? = some q → (lookupIdx (i + j) acc).getD q.f.ty.dflt = q.v) →
    assemble (qs.map (·.f)) [] acc i = qs.map (·.v)
  | [], _, _, _, _ => rfl
  | q :: qs, acc, i, hok, hl => by
    simp only [List.map_cons, assemble, (hok q (by simp)).1]
    rw [show (lookupIdx i acc).getD _ = q.v from hl 0 q rfl, assemble_tagged qs acc (i + 1) (fun r hr => hok r (by simp [hr])) fun j r hj => by
      rw [← hl (j + 1) r (by simpa using hj), Nat.add_assoc, Nat.add_comm 1 j]]

/-- what the loop's result holds for the field at position `j` among the tagged ones: its value if it wrote
bytes, nothing (so its default is taken) if it is an absent `Option`. -/
theorem lookup_results (qs : List TF) (base : Nat) (hqs : ∀ q ∈ qs, q.OK) (hnd : (qs.map (·.t)).Nodup) (j : Nat) (q : TF)
    (hj : qs[j]? = some q) : (lookupIdx (base + j) (results (groupsFrom base qs) [])).getD q.f.ty.dflt = q.v := by
  have hkeys := C13.results_keys_nodup (groupsFrom_nodup qs base hnd).2
  have hmem : ∀ v, (base + j, v) ∈ results (groupsFrom base qs) [] ↔ q.present = true ∧ v = q.v := by
    intro v
    simp only [results, List.append_nil, List.mem_reverse, List.mem_map, mem_groupsFrom]
    constructor
    · rintro ⟨_, ⟨j', q', hj', hp', rfl⟩, h⟩
      simp only [Prod.mk.injEq, Nat.add_left_cancel_iff] at h
      obtain ⟨rfl, rfl⟩ := h
      rw [hj] at hj'; cases hj'
      exact ⟨hp', rfl⟩
    · rintro ⟨hp, rfl⟩
      exact ⟨_, ⟨j, q, hj, hp, rfl⟩, rfl⟩
  cases hp : q.present with
  | true => rw [(C13.lookupIdx_eq_some_iff hkeys _ q.v).mpr ((hmem _).mpr ⟨hp, rfl⟩)]; rfl
  | false =>
    have habs := (hqs q (List.mem_of_getElem? hj)).2.2
    simp only [hp, Bool.false_eq_true, if_false] at habs
    have hnone : lookupIdx (base + j) (results (groupsFrom base qs) []) = none :=
      Option.eq_none_iff_forall_ne_some.mpr fun v hv => by
        have := ((hmem v).mp ((C13.lookupIdx_eq_some_iff hkeys _ v).mp hv)).1
        rw [hp] at this; cases this
    rw [hnone]
    exact habs.2.2.symm

theorem getElem?_split {α : Type} (l : List α) (j : Nat) (a : α) (h : l[j]? = some a) :
    ∃ pre post, l = pre ++ a :: post ∧ pre.length = j := by
  induction l generalizing j with
  | nil => simp at h
  | cons x xs ih =>
    cases j with
    | zero => simp at h; subst h; exact ⟨[], xs, rfl, rfl⟩
    | succ j =>
      simp at h
      obtain ⟨pre, post, he, hl⟩ := ih j h
      exact ⟨x :: pre, post, by rw [he]; rfl, by simp [hl]⟩

/-- the group of a present tagged field decodes exactly: in the generated `match` the arm of its number is the
field's own decoder, at the field's index (the positional fields and the tagged ones before it have other numbers). -/
theorem groupOK_of_fields (ps : List PF) (qs : List TF) (hps : ∀ p ∈ ps, p.OK0) (hqs : ∀ q ∈ qs, q.OK)
    (hnd : (qs.map (·.t)).Nodup) (g : Group) (hg : g ∈ groupsFrom ps.length qs) :
    GroupOK (fun t x => armFind (ps.map (·.f) ++ qs.map (·.f)) t 0 x) g := by
  obtain ⟨j, q, hj, hp, rfl⟩ := mem_groupsFrom.mp hg
  obtain ⟨pre, post, rfl, rfl⟩ := getElem?_split qs j q hj
  have hq : q.OK := hqs q (by simp)
  have hq2 := hq.2.2
  simp only [hp, if_true] at hq2
  refine ⟨hq2.1, hq2.2.1, fun tail hfo => ?_⟩
  have hother : ∀ f ∈ ps.map (·.f) ++ pre.map (·.f), f.tag ≠ some q.t := by
    intro f hf
    simp only [List.mem_append, List.mem_map] at hf
    rcases hf with ⟨p, hp', rfl⟩ | ⟨r, hr, rfl⟩
    · rw [(hps p hp').1]; simp
    · rw [(hqs r (by simp [hr])).1]
      simp only [List.map_append, List.map_cons] at hnd
      intro h
      exact (List.nodup_append.mp hnd).2.2 r.t (List.mem_map_of_mem hr) q.t (by simp) (Option.some.inj h)
  simp only [List.map_append, List.map_cons, ← List.append_assoc]
  rw [armFind_skip _ _ q.t 0 _ hother, armFind_cons, if_pos hq.1, hq2.2.2 tail hfo]
  simp

theorem mem_requiredTags (fs : List Field) (t : Nat) : t ∈ requiredTags fs ↔ ∃ f ∈ fs, f.ty.isOptional = false ∧ f.tag = some t := by
  unfold requiredTags
  simp only [List.mem_filterMap]
  constructor
  · rintro ⟨f, hf, h⟩
    refine ⟨f, hf, ?_⟩
    split at h
    · simp at h
    · rename_i hno; exact ⟨by simpa using hno, h⟩
  · rintro ⟨f, hf, hno, ht⟩
    exact ⟨f, hf, by simp [hno, ht]⟩

/-- **Struct decoder, compositional.** Positional fields (each read back in front of what follows it here)
followed by tagged fields with pairwise distinct numbers (present ones decoding exactly whatever follows
them, absent optional ones writing nothing), in front of ANY `tail` on which the tag loop stops: the generated
`decode` reads exactly the field values and hands back `tail`. The struct theorems below are this one at
`tail = []`, and at an arbitrary tail for a struct without tagged fields. -/
theorem struct_rt_tail (ps : List PF) (qs : List TF) (tail : Bytes)
    (hps : PosOn ps (qs.flatMap (·.bytes) ++ tail)) (hqs : ∀ q ∈ qs, q.OK) (hnd : (qs.map (·.t)).Nodup)
    (hlast : ∀ g, (groupsFrom ps.length qs).getLast? = some g → g.Follows tail)
    (hstop : Stops (fun t x => armFind (ps.map (·.f) ++ qs.map (·.f)) t 0 x) tail) :
    decStruct (ps.map (·.f) ++ qs.map (·.f)) (ps.flatMap (·.bytes) ++ (qs.flatMap (·.bytes) ++ tail)) =
        .ok (.struct (ps.map (·.v) ++ qs.map (·.v)), tail) := by
  have hps0 := posOn_ok0 ps _ hps
  let fs := ps.map (·.f) ++ qs.map (·.f)
  let gs := groupsFrom ps.length qs
  have hposAt := decPos_on ps (qs.map (·.f)) _ hps (tagged_of_ok qs hqs)
  rw [← flat_groupsFrom qs ps.length hqs] at hposAt ⊢
  unfold decStruct
  rw [C13.decode_groups_tail (fun x => decPos fs x) (fun t x => armFind fs t 0 x) fs (ps.flatMap (·.bytes)) (ps.map (·.v))
    gs tail hposAt (groupOK_of_fields ps qs hps0 hqs hnd) (groupsFrom_nodup qs ps.length hnd).1 hlast hstop]
  -- nothing is missing: a mandatory field is tagged, not an `Option`, hence present, hence has its group
  have hall : ∀ t ∈ requiredTags fs, t ∈ tagsOf gs [] := by
    intro t ht
    obtain ⟨f, hf, hno, htag⟩ := (mem_requiredTags fs t).mp ht
    simp only [fs, List.mem_append, List.mem_map] at hf
    rcases hf with ⟨p, hp, rfl⟩ | ⟨q, hq, rfl⟩
    · rw [(hps0 p hp).1] at htag; cases htag
    · have hqo := hqs q hq
      have hpres : q.present = true := by
        cases hpp : q.present with
        | true => rfl
        | false =>
          have := hqo.2.2
          simp only [hpp, Bool.false_eq_true, if_false] at this
          rw [this.2.1] at hno; cases hno
      obtain ⟨j, hj⟩ := List.getElem?_of_mem hq
      simp only [tagsOf, List.append_nil, List.mem_reverse, List.mem_map]
      exact ⟨_, mem_groupsFrom.mpr ⟨j, q, hj, hpres, rfl⟩, Option.some.inj (hqo.1.symm.trans htag)⟩
  rw [C13.none_missing_accepted fs _ _ _ _ hall]
  -- the assembled value
  have h1 := assemble_pos ps (qs.map (·.f)) [] (results gs []) 0 hps0
  simp only [List.append_nil, Nat.zero_add] at h1
  rw [h1, assemble_tagged qs (results gs []) ps.length hqs (lookup_results qs ps.length hqs hnd)]

/-- **Struct round trip, compositional.** The generated `encode` writes the concatenation of the field
encodings, and the generated `decode` reads it back as exactly the field values, nothing left. -/
theorem struct_payload_roundtrip_at (ps : List PF) (qs : List TF) (hps : PosOn ps (qs.flatMap (·.bytes))) (hqs : ∀ q ∈ qs, q.OK)
    (hnd : (qs.map (·.t)).Nodup) :
    encFields (ps.map (·.f) ++ qs.map (·.f)) (ps.map (·.v) ++ qs.map (·.v)) =
        .ok (ps.flatMap (·.bytes) ++ qs.flatMap (·.bytes)) ∧
    decStruct (ps.map (·.f) ++ qs.map (·.f)) (ps.flatMap (·.bytes) ++ qs.flatMap (·.bytes)) =
        .ok (.struct (ps.map (·.v) ++ qs.map (·.v)), []) := by
  refine ⟨?_, ?_⟩
  · have := encFields_map (·.f) (·.v) (·.bytes) _ _ _ (encFields_map (·.f) (·.v) (·.bytes) [] [] [] rfl qs fun q hq => (hqs q hq).ser)
      ps fun p hp => (posOn_ok0 ps _ hps p hp).ser
    simpa using this
  · simpa using struct_rt_tail ps qs [] (by simpa using hps) hqs hnd (fun g _ => Or.inr (noStart_nil g.t)) (stops_nil _)

/-- the same when every positional field decodes whatever follows it. -/
theorem struct_payload_roundtrip (ps : List PF) (qs : List TF) (hps : ∀ p ∈ ps, p.OK) (hqs : ∀ q ∈ qs, q.OK)
    (hnd : (qs.map (·.t)).Nodup) :
    encFields (ps.map (·.f) ++ qs.map (·.f)) (ps.map (·.v) ++ qs.map (·.v)) =
        .ok (ps.flatMap (·.bytes) ++ qs.flatMap (·.bytes)) ∧
    decStruct (ps.map (·.f) ++ qs.map (·.f)) (ps.flatMap (·.bytes) ++ qs.flatMap (·.bytes)) =
        .ok (.struct (ps.map (·.v) ++ qs.map (·.v)), []) :=
  struct_payload_roundtrip_at ps qs (posOn_of_ok ps _ hps) hqs hnd

/-- structs without tagged fields (usable without length prefix) hand back whatever follows them: no tag has
an arm, so the loop stops on anything. -/
theorem struct_positional_suffix (ps : List PF) (hps : ∀ p ∈ ps, p.OK) (x : Bytes) :
    decStruct (ps.map (·.f)) (ps.flatMap (·.bytes) ++ x) = .ok (.struct (ps.map (·.v)), x) := by
  have hstop : Stops (fun t b => armFind (ps.map (·.f) ++ ([] : List TF).map (·.f)) t 0 b) x := by
    intro t _ _
    show armFind (ps.map (·.f) ++ []) t 0 x = none
    rw [armFind_skip _ [] t 0 x fun f hf => by
      obtain ⟨p, hp, rfl⟩ := List.mem_map.mp hf
      rw [(hps p hp).1]; simp]
    rfl
  simpa using struct_rt_tail ps [] x (posOn_of_ok ps _ hps) (by simp) (by simp) (by simp [groupsFrom]) hstop

/-- **A nested struct is a field like any other**: under a delimiting length style (with or without tag) it
round-trips whatever follows it — so the struct theorem applies recursively at any nesting depth. -/
theorem struct_field_roundtrip (ps : List PF) (qs : List TF) (hps : ∀ p ∈ ps, p.OK) (hqs : ∀ q ∈ qs, q.OK)
    (hnd : (qs.map (·.t)).Nodup) (L : LenKind) (E : Enc) (tag : Option Nat)
    (htag : ∀ tg, tag = some tg → tagRepresentable tg)
    (hL : ∀ N, L ≠ .fixed N) (hfit : LenFits L (ps.flatMap (·.bytes) ++ qs.flatMap (·.bytes)).length) (x : Bytes) :
    ∃ bytes, Ty.ser (.struct (ps.map (·.f) ++ qs.map (·.f))) L E tag (.struct (ps.map (·.v) ++ qs.map (·.v))) = .ok bytes ∧
      Ty.de (.struct (ps.map (·.f) ++ qs.map (·.f))) L E tag (bytes ++ x) = .ok (.struct (ps.map (·.v) ++ qs.map (·.v)), x) := by
  obtain ⟨henc, hdec⟩ := struct_payload_roundtrip ps qs hps hqs hnd
  obtain ⟨pre, hs, _⟩ := len_roundtrip L _ [] hfit
  refine ⟨_, by simp only [Ty.ser, henc]; exact serTagged_ok _ L tag _ pre hs, ?_⟩
  rw [de_plain _ rfl]
  refine deserTagged_frame _ _ L tag (stripTag_tagEnc tag htag) _ pre hfit hs _ _ ?_ x
  -- `hL`: under `Fixed<N>` the struct decoder would be shown the zero padding in front of the body (`seenPayload`) and
  -- read it as the first field; the builder has no struct under `Fixed` (`structLenOK`), so the case is excluded
  rw [seen_eq_of_exact L _ fun N hN => absurd hN (hL N)]
  exact hdec

/-- **Commands**: class and instruction (big endian) as the tag, APDU length, body — from the round trip of the body. -/
theorem command_of_payload (s : StructDef) (c : Nat × Nat) (hc : s.ctrl = some c) (h0 : c.1 < 256) (h1 : c.2 < 256)
    (vs : List Val) (p : Bytes) (henc : encFields s.fields vs = .ok p)
    (hdec : decStruct s.fields p = .ok (.struct vs, [])) (hfit : p.length ≤ 65535) :
    ∃ bytes, encodeCmd s (.struct vs) = .ok bytes ∧ ∀ x, decodeCmd s (bytes ++ x) = .ok (.struct vs, x) := by
  obtain ⟨pre, hs, _⟩ := len_roundtrip .adpu p [] hfit
  refine ⟨_, by simp only [encodeCmd, hc, henc]; exact serTagged_ok tagEncBE .adpu _ p pre hs, fun x => ?_⟩
  simp only [decodeCmd, hc]
  exact deserTagged_frame tagEncBE tagDecBE .adpu _ (stripTag_BE c h0 h1) p pre hfit hs _ _ hdec x

theorem command_roundtrip (s : StructDef) (c0 c1 : Nat) (hc : s.ctrl = some (c0, c1)) (h0 : c0 < 256) (h1 : c1 < 256)
    (ps : List PF) (qs : List TF) (hfs : s.fields = ps.map (·.f) ++ qs.map (·.f))
    (hps : ∀ p ∈ ps, p.OK) (hqs : ∀ q ∈ qs, q.OK) (hnd : (qs.map (·.t)).Nodup)
    (hfit : (ps.flatMap (·.bytes) ++ qs.flatMap (·.bytes)).length ≤ 65535) (x : Bytes) :
    ∃ bytes, encodeCmd s (.struct (ps.map (·.v) ++ qs.map (·.v))) = .ok bytes ∧
      decodeCmd s (bytes ++ x) = .ok (.struct (ps.map (·.v) ++ qs.map (·.v)), x) := by
  obtain ⟨henc, hdec⟩ := struct_payload_roundtrip ps qs hps hqs hnd
  rw [← hfs] at henc hdec
  obtain ⟨bytes, hs, hd⟩ := command_of_payload s (c0, c1) hc h0 h1 _ _ henc hdec hfit
  exact ⟨bytes, hs, hd x⟩

end Zvt
