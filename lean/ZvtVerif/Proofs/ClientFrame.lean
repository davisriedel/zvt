/-
  ClientFrame.lean — traffic on abandoned connections: whatever the client does, the per-connection log of every
  slot that is not the live connection stays exactly as it is (nothing is sent, received or closed on it), no slot
  disappears, and the live connection afterwards is the old live one or one opened since (`Quiet`). Lifted from one
  `stream.next()` (`seqNext_frame`) over attempts, reconnects and the retry loop to one exchange, hence (`Exchanges`) to
  every operation of the client.
-/
import ZvtVerif.Proofs.ClientOps
namespace Zvt

/-- `w` descends from `w0`: no connection slot disappeared, and the live connection is the one that was live
in `w0` or one that was opened since (its identity is not among the slots of `w0`). -/
def FreshRel (w0 w : World) : Prop :=
  w0.logs.length ≤ w.logs.length ∧
  ∀ c', w.conn = some c' → (∃ c, w0.conn = some c ∧ c'.id = c.id) ∨ w0.logs.length ≤ c'.id

theorem FreshRel.refl (w : World) : FreshRel w w :=
  ⟨Nat.le_refl _, fun c' h => Or.inl ⟨c', h, rfl⟩⟩

/-- **`w'` is a quiet continuation of `w`**: no slot disappeared, the live connection is the one of `w` or a newer
one, and the log of every slot of `w` that was not its live connection is unchanged. -/
structure Quiet (w w' : World) : Prop where
  fresh : FreshRel w w'
  frozen : ∀ j, j < w.logs.length → (∀ c, w.conn = some c → c.id ≠ j) → w'.logs[j]? = w.logs[j]?

theorem Quiet.refl (w : World) : Quiet w w := ⟨FreshRel.refl w, fun _ _ _ => rfl⟩

theorem Quiet.trans {a b c : World} (h1 : Quiet a b) (h2 : Quiet b c) : Quiet a c := by
  refine ⟨⟨Nat.le_trans h1.fresh.1 h2.fresh.1, ?_⟩, ?_⟩
  · intro c' hc'
    rcases h2.fresh.2 c' hc' with ⟨cb, hb, hid⟩ | hge
    · rcases h1.fresh.2 cb hb with ⟨ca, ha, hid2⟩ | hge2
      · exact Or.inl ⟨ca, ha, hid.trans hid2⟩
      · right; rw [hid]; exact hge2
    · right; exact Nat.le_trans h1.fresh.1 hge
  · intro j hj hdead
    have hjb : j < b.logs.length := Nat.lt_of_lt_of_le hj h1.fresh.1
    have hdeadb : ∀ cb, b.conn = some cb → cb.id ≠ j := by
      intro cb hb
      rcases h1.fresh.2 cb hb with ⟨ca, ha, hid⟩ | hge
      · rw [hid]; exact hdead ca ha
      · omega
    rw [h2.frozen j hjb hdeadb, h1.frozen j hj hdead]

theorem Quiet.of_clock (w : World) (t : Nat) : Quiet w { w with now := t } :=
  ⟨FreshRel.refl w, fun _ _ _ => rfl⟩

theorem quiet_connect (cfg : Cfg) (w : World) : Quiet w (connect cfg w).1 :=
  have ⟨hl, hold⟩ := connect_slots cfg w
  ⟨⟨by omega, fun c' hc' => (connect_live cfg w c' hc').elim (fun h => .inr (Nat.le_of_eq h.symm)) fun h => .inl ⟨c', h, rfl⟩⟩,
   fun j hj _ => hold j hj⟩

theorem quiet_runItems {σ ρ : Type} (d : SeqDesc) (timeout : Nat) (step : σ → Item → Step σ ρ) (fuel : Nat)
    (w : World) (c : ConnSt) (st : SeqSt) (s : σ) (hc : w.conn = some c) :
    Quiet w (runItems d timeout step fuel w c st s).2.1 :=
  have hr := runItems_frame d timeout step fuel w c st s
  ⟨⟨Nat.le_of_eq hr.nlogs.symm, fun c' hc' => Or.inl ⟨c, hc, hr.live c' hc'⟩⟩,
   fun j _ hdead => hr.others j (fun e => hdead c hc e.symm)⟩

theorem quiet_runOp {σ ρ : Type} (cfg : Cfg) (seqName : String) (cmd : Bytes) (timeout : Nat)
    (step : σ → Item → Step σ ρ) (w : World) (s : σ) : Quiet w (runOp cfg seqName cmd timeout step w s).2 :=
  retryLoop_lift cfg (seqDesc seqName cmd) timeout step Quiet Quiet.refl Quiet.trans Quiet.of_clock
    (fun w _ => quiet_connect cfg w) (fun w c s hc => quiet_runItems _ timeout step ITEM_FUEL w c .start s hc) ATTEMPTS none w s

theorem Exchanges.quiet {cfg : Cfg} {T n : Nat} {C : Bytes → Prop} {a b : World} (h : Exchanges cfg T C n a b) : Quiet a b :=
  h.lift Quiet Quiet.refl Quiet.trans fun name cmd f w s _ => quiet_runOp cfg name cmd T f w s

/-- the five calls a history is made of: `Feig::configure` (`Feig::new` runs it), `read_card`, `begin_transaction`,
`commit_transaction`, `cancel_transaction`. -/
inductive ClientCall where
  | configure
  | readCard
  | begin (token : List Nat)
  | commit (token : List Nat) (final : Nat)
  | cancel (token : List Nat)

def runClientCall (cfg : Cfg) (s : Client × World) : ClientCall → Client × World
  | .configure => ((configure cfg s.1 s.2).2.1, (configure cfg s.1 s.2).2.2)
  | .readCard => (s.1, (readCard cfg s.2).2)
  | .begin t => ((beginTx cfg s.1 t s.2).2.1, (beginTx cfg s.1 t s.2).2.2)
  | .commit t f => ((commitTx cfg s.1 t f s.2).2.1, (commitTx cfg s.1 t f s.2).2.2)
  | .cancel t => ((cancelTx cfg s.1 t s.2).2.1, (cancelTx cfg s.1 t s.2).2.2)

def runClientCalls (cfg : Cfg) (s : Client × World) (calls : List ClientCall) : Client × World :=
  calls.foldl (runClientCall cfg) s

theorem quiet_call (cfg : Cfg) (s : Client × World) (c : ClientCall) : Quiet s.2 (runClientCall cfg s c).2 := by
  cases c with
  | configure =>
    exact (exchanges_configure (C := fun _ => True) trivial trivial trivial (fun _ _ => trivial) (eta3 _)).quiet
  | readCard => exact (exchanges_readCard (C := fun _ => True) trivial (Prod.eta _).symm).quiet
  | begin t => exact (exchanges_beginTx (C := fun _ => True) trivial (eta3 _)).quiet
  | commit t f => exact (exchanges_commitTx (C := fun _ => True) (fun _ _ => trivial) (fun _ _ _ => trivial) (eta3 _)).quiet
  | cancel t => exact (exchanges_cancelTx (C := fun _ => True) (fun _ _ => trivial) (fun _ _ _ => trivial) (eta3 _)).quiet

theorem quiet_calls (cfg : Cfg) : ∀ (calls : List ClientCall) (s : Client × World),
    Quiet s.2 (runClientCalls cfg s calls).2 := by
  intro calls
  induction calls with
  | nil => intro s; exact Quiet.refl s.2
  | cons c cs ih => intro s; exact (quiet_call cfg s c).trans (ih (runClientCall cfg s c))

end Zvt
