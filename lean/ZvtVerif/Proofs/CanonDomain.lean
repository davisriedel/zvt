/-
  CanonDomain.lean — what the round-trip theorems are stated over: the canonical value domain of DESIGN.md §5.1 as a
  definition by recursion on the schema (`leafCanon`, `Ty.canon`, `fieldsCanon`, `StructDef.canon`), the Boolean
  well-formedness check on schemas (`leafWf`, `Ty.wf`, `fieldsWf`, `structWf`) and what may follow an encoded field for it
  to be read back (`Follow`, `leafFollow`, `Ty.follow`). Definitions only; the theorems are in Canon.lean.
-/
import ZvtVerif.Proofs.Utf8DateTime
import ZvtVerif.Proofs.TagLoop
namespace Zvt

inductive Follow where
  | any                    -- self-delimiting: whatever follows is handed back
  | noStart (t : Nat)      -- a `Vec` field with number `t`: anything that does not begin with that number
  | endOnly                -- a field that takes all there is: only the end of the enclosing container
  deriving DecidableEq

def Follow.holds : Follow → Bytes → Prop
  | .any, _ => True
  | .noStart t, x => NoStart t x
  | .endOnly, x => x = []

/-- length styles that delimit their payload inside a struct: `LenFits` without `adpu`, which only frames a packet.
Decides `leafFollow` / `Ty.follow` (anything may follow such a field); cf. DESIGN §5.5. -/
def LenKind.delim : LenKind → Bool
  | .tlv => true
  | .llv _ => true
  | .fixed _ => true
  | _ => false

def tagOK : Option Nat → Bool
  | none => true
  | some t => decide (tagRepresentable t)

/-- the (encoding, type) pairs the builder implements for non-container types. The same nine rows as `leafTyped`
(NoPanic.lean), spelled twice because each is in the hypothesis of a property theorem (this one of C01 through `Ty.wf`,
that one of C02; DESIGN §5.5). -/
def leafShape : Enc → Ty → Bool
  | .dflt, .int _ => true
  | .bigEndian, .int _ => true
  | .bcd, .int _ => true
  | .prrn, .int _ => true
  | .dflt, .str => true
  | .hex, .str => true
  | .utf8, .str => true
  | .custom, .bytes => true
  | .dflt, .dateTime => true
  | _, _ => false

/-- the leaves whose value decoder reads a fixed number of bytes and hands back the rest (`leafDec_selfEnding`): only
these may stand without length prefix in front of other fields. -/
def selfEnding : Enc → Ty → Bool
  | .dflt, .int _ => true
  | .bigEndian, .int _ => true
  | _, _ => false

def leafFollow (t : Ty) (L : LenKind) (E : Enc) : Follow :=
  if L.delim then .any
  else if L = .empty ∧ selfEnding E t = true then .any
  else .endOnly

/-- which length styles go with which leaf. -/
def leafLenOK : LenKind → Enc → Ty → Bool
  | .tlv, E, _ => E != .prrn
  | .llv _, E, _ => E != .prrn
  | .empty, E, _ => E != .prrn
  | .fixed N, .dflt, .int w => N == w
  | .fixed N, .bigEndian, .int w => N == w
  | .fixed N, .prrn, .int w => N == 2 && w == 8
  | .fixed _, .bcd, .int _ => true
  | .fixed _, _, .str => true
  | .fixed _, _, .bytes => true
  | .temperature, .dflt, .str => true
  | _, _, _ => false

def leafWf (t : Ty) (L : LenKind) (E : Enc) (tag : Option Nat) : Bool :=
  leafShape E t && tagOK tag && leafLenOK L E t

/-- the encoded length is representable in the style: `LenFits`, extended to the two styles without a delimiting
prefix (`Empty`: any length; `Temperature`: three or four bytes). The length clause of `leafCanon` / `Ty.canon`. -/
def LenOK : LenKind → Nat → Prop
  | .empty, _ => True
  | .temperature, n => n = 3 ∨ n = 4
  | L, n => LenFits L n

/-- **Canonical leaf values** (DESIGN.md §5.1). -/
def leafCanon (L : LenKind) (E : Enc) (t : Ty) (v : Val) : Prop :=
  ∃ p, leafEnc E t v = .ok p ∧ LenOK L p.length ∧
  match E, t, v with
  | .dflt, .int w, .num n => n < 256 ^ w
  | .bigEndian, .int w, .num n => n < 256 ^ w
  | .bcd, .int w, .num n => n < 256 ^ w
  | .prrn, .int _, .num n => n = 0xffff ∨ n ≤ 9999
  | .dflt, .str, .str cs => cs.getLast? ≠ some 0 ∧ (∀ N, L = .fixed N → p.length = N)
  | .hex, .str, .str cs => (∀ c ∈ cs, isLowerHex c = true) ∧ (∀ N, L = .fixed N → p.length = N)
  | .utf8, .str, .str cs => (∀ c ∈ cs, validScalar c) ∧ (∀ N, L = .fixed N → p.length = N)
  | .custom, .bytes, .raw b => b ≠ [] ∧ (∀ N, L = .fixed N → p.length = N)
  | .dflt, .dateTime, .dt d t => validDt d t
  | _, _, _ => False

mutual
/-- what may follow the encoding of a field of this shape for the decoder to read it back. -/
def Ty.follow : Ty → LenKind → Enc → Option Nat → Follow
  | .opt t, L, E, tag => Ty.follow t L E tag
  | .vec _, _, _, tag =>
    match tag with
    | some tg => .noStart tg
    | none => .endOnly
  | .struct fs, L, _, _ => if L.delim then .any else if fieldsTransparent fs then .any else .endOnly
  | .int w, L, E, _ => leafFollow (.int w) L E
  | .str, L, E, _ => leafFollow .str L E
  | .bytes, L, E, _ => leafFollow .bytes L E
  | .dateTime, L, E, _ => leafFollow .dateTime L E
termination_by structural t => t
/-- a struct that can stand without a length prefix: only positional, self-delimiting, non-optional fields. -/
def fieldsTransparent : List Field → Bool
  | [] => true
  | .mk _ tag L E ty :: fs => tag.isNone && (Ty.follow ty L E none == .any) && ty.plain && fieldsTransparent fs
termination_by structural fs => fs
end

/-- the length styles a nested struct may stand under: the delimiting ones a container uses (`tlv`, `llv`), or none
(`Empty`). The length clause of `Ty.wf` for structs, as `leafLenOK` is for leaves. -/
def structLenOK : LenKind → Bool
  | .tlv => true
  | .llv _ => true
  | .empty => true
  | _ => false

mutual
/-- **Well-formed field shapes** (Boolean, evaluated by the kernel on the shipped schema). -/
def Ty.wf : Ty → LenKind → Enc → Option Nat → Bool
  | .opt t, L, E, tag => t.plain && Ty.wf t L E tag
  | .vec t, L, E, tag => tag.isSome && t.plain && Ty.wf t L E tag && (Ty.follow t L E tag == .any)
  | .struct fs, L, _, tag => tagOK tag && structLenOK L && fieldsWf fs
  | .int w, L, E, tag => leafWf (.int w) L E tag
  | .str, L, E, tag => leafWf .str L E tag
  | .bytes, L, E, tag => leafWf .bytes L E tag
  | .dateTime, L, E, tag => leafWf .dateTime L E tag
termination_by structural t => t
/-- positional fields first, each self-delimiting unless it is the very last field; then tagged fields with
pairwise distinct numbers, none of which takes everything. -/
def fieldsWf : List Field → Bool
  | [] => true
  | .mk _ tag L E ty :: fs =>
    Ty.wf ty L E tag && fieldsWf fs &&
    (match tag with
     | none => (Ty.follow ty L E none == .any) || fs.isEmpty
     | some t => fs.all (fun f => f.tag.isSome && f.tag != some t) && (Ty.follow ty L E tag != .endOnly))
termination_by structural fs => fs
end

mutual
/-- **Canonical values** (DESIGN.md §5.1), by recursion on the schema. -/
def Ty.canon : Ty → LenKind → Enc → Option Nat → Val → Prop
  | .opt t, L, E, tag, v =>
    match v with
    | .none => True        -- for a positional field: only in front of bytes its decoder fails on (`fieldsCanon`)
    | .some v' => Ty.canon t L E tag v'
    | _ => False
  | .vec t, L, E, tag, v =>
    match v with
    | .vec vs => ∀ v' ∈ vs, Ty.canon t L E tag v'
    | _ => False
  | .struct fs, L, _, _, v =>
    match v with
    | .struct vs => fieldsCanon fs vs ∧ ∀ p, encFields fs vs = .ok p → LenOK L p.length
    | _ => False
  | .int w, L, E, _, v => leafCanon L E (.int w) v
  | .str, L, E, _, v => leafCanon L E .str v
  | .bytes, L, E, _, v => leafCanon L E .bytes v
  | .dateTime, L, E, _, v => leafCanon L E .dateTime v
termination_by structural t => t
def fieldsCanon : List Field → List Val → Prop
  | [], vs => vs = []
  | .mk _ tag L E ty :: fs, vs =>
    match vs with
    | v :: vs' =>
      Ty.canon ty L E tag v ∧ fieldsCanon fs vs' ∧
      -- an ABSENT POSITIONAL optional is canonical only if the field's own decoder reads what follows it in
      -- this very encoding as "absent" (i.e. the inner decoder fails on it) — DESIGN.md §5.1
      (tag = none → v = .none → ∀ p, encFields fs vs' = .ok p → Ty.de ty L E none p = .ok (.none, p))
    | [] => False
termination_by structural fs => fs
end

/-- the value writes bytes (an absent `Option` and an empty `Vec` write nothing). -/
def Present : Val → Prop
  | .none => False
  | .vec [] => False
  | _ => True

instance (v : Val) : Decidable (Present v) := by
  cases v with
  | none => exact isFalse (by simp [Present])
  | vec vs => cases vs with
    | nil => exact isFalse (by simp [Present])
    | cons a as => exact isTrue (by simp [Present])
  | num n => exact isTrue (by simp [Present])
  | str cs => exact isTrue (by simp [Present])
  | raw b => exact isTrue (by simp [Present])
  | dt d t => exact isTrue (by simp [Present])
  | some v => exact isTrue (by simp [Present])
  | struct vs => exact isTrue (by simp [Present])

/-- every positional field holds a value that writes bytes (no absent positional optional). -/
def posPresent : List Field → List Val → Prop
  | [], _ => True
  | _ :: _, [] => True
  | .mk _ tag _ _ _ :: fs, v :: vs => (tag = none → Present v) ∧ posPresent fs vs

/-- well-formed packet type: well-formed fields, class and instruction are bytes. -/
def structWf (s : StructDef) : Bool :=
  fieldsWf s.fields &&
  (match s.ctrl with
   | none => true
   | some c => decide (c.1 < 256) && decide (c.2 < 256))

/-- **Canonical values of a packet type**: a struct value whose fields are canonical and whose body fits an APDU. -/
def StructDef.canon (s : StructDef) (v : Val) : Prop :=
  ∃ vs, v = .struct vs ∧ fieldsCanon s.fields vs ∧ ∀ p, encFields s.fields vs = .ok p → p.length ≤ 65535

end Zvt
