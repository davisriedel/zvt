/-
  ClientOps.lean — every operation of the client is a sequence of exchanges.

  `Exchanges cfg T C n w w'`: the world `w'` is reached from `w` by at most `n` exchanges (`runOp`, each with all its
  retries), every one with per-packet time-out `T` and a command in `C`. Each public operation is such a
  path (`exchanges_*`: the one place where the control flow of an operation is followed); whatever holds of one
  exchange and composes — time and pace (C10), silence on abandoned connections (C09), what is written (Traffic) —
  then holds of every operation by `Exchanges.lift` or an induction of the same shape.
-/
import ZvtVerif.Proofs.ClientRetry
namespace Zvt

inductive Exchanges (cfg : Cfg) (T : Nat) (C : Bytes → Prop) : Nat → World → World → Prop
  | done (n : Nat) (w : World) : Exchanges cfg T C n w w
  | step {σ ρ : Type} {n : Nat} {w' : World} (name : String) (cmd : Bytes) (f : σ → Item → Step σ ρ) (w : World) (s : σ) :
      C cmd → Exchanges cfg T C n (runOp cfg name cmd T f w s).2 w' → Exchanges cfg T C (n + 1) w w'

namespace Exchanges
variable {cfg : Cfg} {T : Nat} {C : Bytes → Prop} {m n : Nat} {a b c : World}

theorem le (h : Exchanges cfg T C m a b) : ∀ {n}, m ≤ n → Exchanges cfg T C n a b := by
  induction h with
  | done m w => intro n _; exact .done n w
  | step name cmd f w s hc _ ih =>
    intro n hn
    obtain ⟨k, rfl⟩ : ∃ k, n = k + 1 := ⟨n - 1, by omega⟩
    exact .step name cmd f w s hc (ih (by omega))

theorem andThen (h1 : Exchanges cfg T C m a b) (h2 : Exchanges cfg T C n b c) {k : Nat} (hk : m + n ≤ k) :
    Exchanges cfg T C k a c := by
  induction h1 generalizing k with
  | done m w => exact h2.le (by omega)
  | step name cmd f w s hc _ ih =>
    obtain ⟨k, rfl⟩ : ∃ j, k = j + 1 := ⟨k - 1, by omega⟩
    exact .step name cmd f w s hc (ih h2 (by omega))

theorem lift (R : World → World → Prop) (hrefl : ∀ w, R w w) (htrans : ∀ {a b c}, R a b → R b c → R a c)
    (hstep : ∀ {σ ρ : Type} (name cmd) (f : σ → Item → Step σ ρ) (w s), C cmd → R w (runOp cfg name cmd T f w s).2)
    (h : Exchanges cfg T C n a b) : R a b := by
  induction h with
  | done _ w => exact hrefl w
  | step name cmd f w s hc _ ih => exact htrans (hstep name cmd f w s hc) ih

theorem of_runOp {σ ρ : Type} {name : String} {cmd : Bytes} {f : σ → Item → Step σ ρ} {w w' : World} {s : σ} {o : Step σ ρ}
    (hc : C cmd) (h : runOp cfg name cmd T f w s = (o, w')) : Exchanges cfg T C 1 w w' :=
  .step name cmd f w s hc (by rw [h]; exact .done 0 w')

end Exchanges

/-! The four commands that Client.lean only has as a `let cmd := …` inside the operation (`cancelByReceipt`, `endOfDay`,
`initializeT`, `setTerminalId`), spelt here exactly as there: `exchanges_cancelByReceipt`, `exchanges_endOfDay`,
`exchanges_initializeT`, `exchanges_setTerminalId` type-check only while the two spellings agree. -/

def reversalCmd (cfg : Cfg) (receipt : Nat) : Bytes :=
  encodeReq "packets::PreAuthReversal" (.struct [.some (.num 0x40), .some (.num cfg.currency), .some (.num receipt)])
def eodCmd (cfg : Cfg) : Bytes := encodeReq "packets::EndOfDay" (.struct [.num cfg.password])
def initCmd (cfg : Cfg) : Bytes := encodeReq "packets::Initialization" (.struct [.num cfg.password])
def setTidCmd (cfg : Cfg) : Bytes :=
  encodeReq "packets::SetTerminalId" (.struct [.num cfg.password, .some (.num (digitsVal cfg.terminalId))])

/-- the commands of the idle clean-up: pending query, reversal of a reported receipt, end-of-day. -/
def CleanupCmd (cfg : Cfg) (p : Bytes) : Prop := p = pendingCmd ∨ (∃ r, p = reversalCmd cfg r) ∨ p = eodCmd cfg

/-! ### the operations

The admitted commands `C` are the caller's choice: each lemma asks why the commands the operation can issue are in `C`.
It takes the equation `op … w = (result, w')`; `(Prod.eta _).symm` or `eta3 _` for it make it speak of `(op … w).2`.

The proofs follow the operation's `match`es. Where it matches on a `runOp`, `split at h` leaves the equation
`runOp … = (_, w')` in the context and `‹_›` picks it up. Where it matches on another operation, `rcases hx : op … with ⟨r1, w1⟩`
names the outcome, the path so far is taken from `hx` once, and the cases of `r1` say how the operation goes on. -/

variable {cfg : Cfg} {C : Bytes → Prop} {w w' : World}

theorem eta3 {α β γ : Type} (p : α × β × γ) : p = (p.1, p.2.1, p.2.2) := rfl

theorem exchanges_getSystemInfo (hc : C sysInfoCmd) {r : CRes Val} (h : getSystemInfo cfg w = (r, w')) :
    Exchanges cfg TIMEOUT C 1 w w' := by
  unfold getSystemInfo at h
  split at h <;> cases h <;> exact .of_runOp hc ‹_›

theorem exchanges_simpleOp {seqName : String} {cmd : Bytes} {onOk : EnumDef → Nat → Val → Step Unit (CRes Unit)}
    (hc : C cmd) {r : CRes Unit} (h : simpleOp cfg seqName cmd w onOk = (r, w')) : Exchanges cfg TIMEOUT C 1 w w' := by
  unfold simpleOp at h
  split at h <;> cases h <;> exact .of_runOp hc ‹_›

theorem exchanges_setTerminalId (h1 : C sysInfoCmd) (h2 : C (setTidCmd cfg)) {r : CRes Unit}
    (h : setTerminalId cfg w = (r, w')) : Exchanges cfg TIMEOUT C 2 w w' := by
  unfold setTerminalId at h
  rcases hg : getSystemInfo cfg w with ⟨r1, w1⟩
  have hx := exchanges_getSystemInfo h1 hg
  rw [hg] at h
  cases r1 with
  | error e => cases h; exact hx.le (by omega)
  | ok info =>
    simp only at h
    split at h
    · cases h; exact hx.le (by omega)
    · split at h
      · cases h; exact hx.le (by omega)
      · exact hx.andThen (exchanges_simpleOp h2 h) (Nat.le_refl 2)

theorem exchanges_initializeT (hc : C (initCmd cfg)) {r : CRes Unit} (h : initializeT cfg w = (r, w')) :
    Exchanges cfg TIMEOUT C 1 w w' := exchanges_simpleOp hc h

theorem exchanges_cancelByReceipt {n : Nat} (hc : C (reversalCmd cfg n)) {r : CRes Unit}
    (h : cancelByReceipt cfg n w = (r, w')) : Exchanges cfg TIMEOUT C 1 w w' := exchanges_simpleOp hc h

theorem exchanges_getPending (hc : C pendingCmd) {r : CRes (List Nat)} (h : getPending cfg w = (r, w')) :
    Exchanges cfg TIMEOUT C 1 w w' := by
  unfold getPending at h
  split at h <;> cases h <;> exact .of_runOp hc ‹_›

theorem getPending_length {l : List Nat} (h : getPending cfg w = (.ok l, w')) : l.length ≤ 1 := by
  unfold getPending at h
  split at h
  · next hq =>
    cases h
    -- the list is an early result of the exchange, so one the loop body made up
    refine runOp_ret_from_step cfg _ _ _ _ w () (fun r => ∀ l, r = .ok l → l.length ≤ 1) ?_ _ (congrArg Prod.fst hq) l rfl
    rintro s (⟨i, v⟩ | _) r h l rfl
    · simp only [pendingStep] at h
      split at h
      · split at h
        · cases h; simp
        · split at h <;> cases h <;> simp
      · cases h
    · cases h
  · cases h

theorem exchanges_cancelAll : ∀ {rs : List Nat} {w w' : World} {r : CRes Unit}, (∀ n ∈ rs, C (reversalCmd cfg n)) →
    cancelAll cfg rs w = (r, w') → Exchanges cfg TIMEOUT C rs.length w w'
  | [], w, _, _, _, h => by cases h; exact .done 0 w
  | n :: rs, w, _, _, hc, h => by
    unfold cancelAll at h
    rcases h1 : cancelByReceipt cfg n w with ⟨r1, w1⟩
    have hx := exchanges_cancelByReceipt (hc n List.mem_cons_self) h1
    rw [h1] at h
    cases r1 with
    | error e => cases h; exact hx.le (by simp)
    | ok _ => exact hx.andThen (exchanges_cancelAll (fun m hm => hc m (List.mem_cons_of_mem _ hm)) h) (by simp [Nat.add_comm])

/-- `end_of_day`: pending query, reversal of the (at most one) reported receipt, end-of-day. -/
theorem exchanges_endOfDay (hc : ∀ p, CleanupCmd cfg p → C p) {cl cl' : Client} {r : CRes Unit}
    (h : endOfDay cfg cl w = (r, cl', w')) : Exchanges cfg TIMEOUT C 3 w w' := by
  unfold endOfDay at h
  simp only at h
  rcases hp : getPending cfg w with ⟨r1, w1⟩
  have h1 := exchanges_getPending (hc _ (.inl rfl)) hp
  rw [hp] at h
  cases r1 with
  | error e => cases h; exact h1.le (by omega)
  | ok pend =>
    simp only at h
    rcases hr : cancelAll cfg pend w1 with ⟨r2, w2⟩
    have h2 := h1.andThen (exchanges_cancelAll (fun n _ => hc _ (.inr (.inl ⟨n, rfl⟩))) hr)
      (Nat.add_le_add_left (getPending_length hp) 1)
    rw [hr] at h
    cases r2 with
    | error e => cases h; exact h2.le (by omega)
    | ok _ => cases h; exact h2.andThen (exchanges_simpleOp (hc _ (.inr (.inr rfl))) (Prod.eta _).symm) (Nat.le_refl 3)

theorem exchanges_idleCleanup {cl cl' : Client} (hc : cl.txs = [] → ∀ p, CleanupCmd cfg p → C p) {r : CRes Unit}
    (h : idleCleanup cfg cl w = (r, cl', w')) : Exchanges cfg TIMEOUT C 3 w w' := by
  unfold idleCleanup at h
  split at h
  · next he => exact exchanges_endOfDay (hc (by simpa using he)) h
  · cases h; exact .done 3 w

/-- `configure`: identity request, set-terminal-id, initialisation, then the clean-up commands. -/
theorem exchanges_configure (h1 : C sysInfoCmd) (h2 : C (setTidCmd cfg)) (h3 : C (initCmd cfg))
    (h4 : ∀ p, CleanupCmd cfg p → C p) {cl cl' : Client} {r : CRes Unit} (h : configure cfg cl w = (r, cl', w')) :
    Exchanges cfg TIMEOUT C 6 w w' := by
  unfold configure at h
  rcases hs : setTerminalId cfg w with ⟨r1, w1⟩
  have hx := exchanges_setTerminalId h1 h2 hs
  rw [hs] at h
  cases r1 with
  | error e => cases h; exact hx.le (by omega)
  | ok _ =>
    simp only at h
    rcases hi : initializeT cfg w1 with ⟨r2, w2⟩
    have hy := hx.andThen (exchanges_initializeT h3 hi) (Nat.le_refl 3)
    rw [hi] at h
    cases r2 with
    | error e => cases h; exact hy.le (by omega)
    | ok _ => exact hy.andThen (exchanges_endOfDay h4 h) (Nat.le_refl 6)

theorem exchanges_readCard (hc : C (readCardCmd cfg)) {r : CRes Card} (h : readCard cfg w = (r, w')) :
    Exchanges cfg (readCardTimeoutOf cfg.readCardTimeout) C 1 w w' := by
  unfold readCard at h
  split at h <;> cases h <;> exact .of_runOp hc ‹_›

/-- **begin**: refused at once, or the one reservation exchange for ITS token. -/
theorem exchanges_beginTx {cl cl' : Client} {t : List Nat} (hc : C (reservationCmd cfg t)) {r : CRes Unit}
    (h : beginTx cfg cl t w = (r, cl', w')) : Exchanges cfg TIMEOUT C 1 w w' := by
  unfold beginTx at h
  split at h
  · cases h; exact .done 1 w
  · split at h
    · cases h; exact .done 1 w
    · unfold beginFold at h
      split at h <;> cases h <;> exact .of_runOp hc ‹_›

theorem find_fst {l : List (List Nat × Nat)} {t a : List Nat} {r : Nat} (h : l.find? (·.1 = t) = some (a, r)) : a = t := by
  simpa using List.find?_some h

/-- **cancel**: the reversal of the receipt recorded for ITS token and — only if no token remains open — the clean-up. -/
theorem exchanges_cancelTx {cl cl' : Client} {t : List Nat}
    (h1 : ∀ n, cl.txs.find? (·.1 = t) = some (t, n) → C (reversalCmd cfg n))
    (h2 : cl.txs.filter (·.1 ≠ t) = [] → ∀ p, CleanupCmd cfg p → C p) {r : CRes Unit}
    (h : cancelTx cfg cl t w = (r, cl', w')) : Exchanges cfg TIMEOUT C 4 w w' := by
  unfold cancelTx at h
  split at h
  · cases h; exact .done 4 w
  · next t' n hf =>
    cases find_fst hf
    unfold cancelFold at h
    rcases hc : cancelByReceipt cfg n w with ⟨r1, w1⟩
    have hx := exchanges_cancelByReceipt (h1 n hf) hc
    rw [hc] at h
    cases r1 with
    | error e => cases h; exact hx.le (by omega)
    | ok _ => exact hx.andThen (exchanges_idleCleanup h2 h) (Nat.le_refl 4)

/-- **commit**: the partial reversal carrying the receipt recorded for ITS token and — only if no token remains open —
the clean-up. -/
theorem exchanges_commitTx {cl cl' : Client} {t : List Nat} {f : Nat}
    (h1 : ∀ n, cl.txs.find? (·.1 = t) = some (t, n) → C (commitCmd cfg t n f))
    (h2 : cl.txs.filter (·.1 ≠ t) = [] → ∀ p, CleanupCmd cfg p → C p) {r : CRes Summary}
    (h : commitTx cfg cl t f w = (r, cl', w')) : Exchanges cfg TIMEOUT C 4 w w' := by
  unfold commitTx at h
  split at h
  · cases h; exact .done 4 w
  · next t' n hf =>
    cases find_fst hf
    unfold commitFold at h
    split at h
    · cases h; exact (Exchanges.of_runOp (h1 n hf) ‹_›).le (by omega)
    · next st w1 hr =>
      rcases hi : idleCleanup cfg { txs := cl.txs.filter (·.1 ≠ t) } w1 with ⟨r2, cl2, w2⟩
      have hy := (Exchanges.of_runOp (h1 n hf) hr).andThen (exchanges_idleCleanup h2 hi) (Nat.le_refl 4)
      rw [hi] at h
      cases r2 with
      | error e => cases h; exact hy
      | ok _ => simp only at h; split at h <;> cases h <;> exact hy

end Zvt
