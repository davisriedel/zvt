/-
  TagLoop.lean — the loop invariant behind C13 (and the struct case of C01): how the tag-dispatch loop of
  the generated `decode` consumes a sequence of encoded tagged-field groups (`tagLoop_groups`) and where it
  ends (`Stops`, `loop_groups_stops`).
-/
import ZvtVerif.Derive
namespace Zvt

/-- one encoded tagged-field group: the field's number, its index in the struct, the value its decoder
yields and the bytes of the group (a `Vec` field's consecutive elements form one group). -/
structure Group where
  t : Nat
  idx : Nat
  v : Val
  bytes : Bytes
  /-- `true`: the group decodes whatever follows it (a single field); `false`: only when what follows does
  not begin with the group's own tag (the consecutive elements of a `Vec` field: one more element with that
  tag would belong to the group). -/
  strict : Bool := true

/-- `x` does not begin with tag `t`. -/
def NoStart (t : Nat) (x : Bytes) : Prop := ∀ r, tagDecDefault x ≠ .ok (t, r)

theorem noStart_nil (t : Nat) : NoStart t [] := by
  intro r h; simp [tagDecDefault] at h

/-- what may follow the group. -/
def Group.Follows (g : Group) (tail : Bytes) : Prop := g.strict = true ∨ NoStart g.t tail

abbrev Arm := Nat → Bytes → Option (Nat × Res (Val × Bytes))

/-- the group decodes exactly, whatever follows it: the tag is recognised, the arm of that tag yields the
value and hands back precisely the bytes behind the group. -/
def GroupOK (arm : Arm) (g : Group) : Prop :=
  g.bytes ≠ [] ∧ (∀ tail, ∃ r, tagDecDefault (g.bytes ++ tail) = .ok (g.t, r)) ∧
    ∀ tail, g.Follows tail → arm g.t (g.bytes ++ tail) = some (g.idx, .ok (g.v, tail))

def flat (gs : List Group) : Bytes := gs.flatMap (·.bytes)

def results (gs : List Group) (acc : List (Nat × Val)) : List (Nat × Val) :=
  (gs.map fun g => (g.idx, g.v)).reverse ++ acc

def tagsOf (gs : List Group) (seen : List Nat) : List Nat := (gs.map (·.t)).reverse ++ seen

/-- the `curr_len` the loop holds after the groups were consumed. -/
def lastLen : List Group → Bytes → Nat → Nat
  | [], _, cl => cl
  | [g], tail, _ => (g.bytes ++ tail).length
  | _ :: g' :: gs, tail, cl => lastLen (g' :: gs) tail cl

theorem lastLen_indep : ∀ (gs : List Group) (tail : Bytes) (c1 c2 : Nat), gs ≠ [] → lastLen gs tail c1 = lastLen gs tail c2
  | [], _, _, _, h => absurd rfl h
  | [_], _, _, _, _ => rfl
  | _ :: g' :: gs, tail, c1, c2, _ => by simp only [lastLen]; exact lastLen_indep (g' :: gs) tail c1 c2 (by simp)

theorem flat_cons (g : Group) (gs : List Group) : flat (g :: gs) = g.bytes ++ flat gs := by
  simp [flat]

/-- **One round**: a well-formed group at the head of the input whose tag was not seen yet is consumed,
its value recorded under its field index, its tag marked as seen. -/
theorem tagLoop_step (arm : Arm) (g : Group) (hg : GroupOK arm g) (fuel currLen : Nat) (tail : Bytes)
    (acc : List (Nat × Val)) (seen : List Nat) (hns : g.t ∉ seen) (hcl : currLen ≠ (g.bytes ++ tail).length)
    (hfo : g.Follows tail) :
    tagLoop arm (fuel + 1) currLen (g.bytes ++ tail) acc seen =
      tagLoop arm fuel (g.bytes ++ tail).length tail ((g.idx, g.v) :: acc) (g.t :: seen) := by
  obtain ⟨hne, htg, hok⟩ := hg
  obtain ⟨r, htd⟩ := htg tail
  have harm := hok tail hfo
  simp only [tagLoop]
  have h1 : ¬ ((g.bytes ++ tail).isEmpty = true ∨ currLen = (g.bytes ++ tail).length) := by
    rintro (h | h)
    · exact hne (List.append_eq_nil_iff.mp (List.isEmpty_iff.mp h)).1
    · exact hcl h
  have hc : seen.contains g.t = false := by simpa using hns
  simp only [h1, if_false, htd, harm, hc]
  simp

theorem follows_flat (arm : Arm) (g : Group) (gs : List Group) (tail : Bytes)
    (hok : ∀ g' ∈ gs, GroupOK arm g') (hnt : g.t ∉ gs.map (·.t))
    (hlast : gs = [] → g.Follows tail) : g.Follows (flat gs ++ tail) := by
  cases gs with
  | nil => simpa [flat] using hlast rfl
  | cons g' gs' =>
    right
    intro r h
    obtain ⟨r', hr'⟩ := (hok g' (by simp)).2.1 (flat gs' ++ tail)
    rw [flat_cons, List.append_assoc, hr'] at h
    simp only [Except.ok.injEq, Prod.mk.injEq] at h
    exact hnt (by simp [h.1])

/-- **Many rounds**: groups with pairwise distinct, not yet seen tags are consumed one after the other
(the last one must be allowed to be followed by `tail`). -/
theorem tagLoop_groups (arm : Arm) : ∀ (gs : List Group) (fuel currLen : Nat) (tail : Bytes)
    (acc : List (Nat × Val)) (seen : List Nat),
    (∀ g ∈ gs, GroupOK arm g) → (gs.map (·.t)).Nodup → (∀ g ∈ gs, g.t ∉ seen) →
    (gs ≠ [] → currLen ≠ (flat gs ++ tail).length) → (∀ g, gs.getLast? = some g → g.Follows tail) →
    tagLoop arm (gs.length + fuel) currLen (flat gs ++ tail) acc seen =
      tagLoop arm fuel (lastLen gs tail currLen) tail (results gs acc) (tagsOf gs seen) := by
  intro gs
  induction gs with
  | nil => intro fuel currLen tail acc seen _ _ _ _ _; simp [flat, results, tagsOf, lastLen]
  | cons g gs ih =>
    intro fuel currLen tail acc seen hok hnd hns hcl hlast
    have hg := hok g (by simp)
    have hcl' := hcl (by simp)
    rw [flat_cons, List.append_assoc] at hcl' ⊢
    have hlen : (g :: gs).length + fuel = (gs.length + fuel) + 1 := by simp; omega
    simp only [List.map_cons, List.nodup_cons] at hnd
    have hfo : g.Follows (flat gs ++ tail) :=
      follows_flat arm g gs tail (fun g' hg' => hok g' (by simp [hg'])) hnd.1
        (fun h => hlast g (by simp [h]))
    rw [hlen, tagLoop_step arm g hg _ currLen (flat gs ++ tail) acc seen (hns g (by simp)) hcl' hfo]
    have hns' : ∀ g' ∈ gs, g'.t ∉ g.t :: seen := by
      intro g' hg' hm
      simp only [List.mem_cons] at hm
      rcases hm with hm | hm
      · exact hnd.1 (by rw [← hm]; exact List.mem_map_of_mem hg')
      · exact hns g' (by simp [hg']) hm
    have hcl2 : gs ≠ [] → (g.bytes ++ (flat gs ++ tail)).length ≠ (flat gs ++ tail).length := by
      intro _
      have := List.length_pos_iff.mpr hg.1
      rw [List.length_append]; omega
    have hlast' : ∀ g', gs.getLast? = some g' → g'.Follows tail := by
      intro g' hg'
      apply hlast g'
      cases gs with
      | nil => simp at hg'
      | cons a as => simpa [List.getLast?_cons_cons] using hg'
    rw [ih fuel _ tail _ _ (fun g' hg' => hok g' (by simp [hg'])) hnd.2 hns' hcl2 hlast']
    congr 1
    · cases gs with
      | nil => simp [lastLen, flat]
      | cons g' gs' => simp only [lastLen]; exact lastLen_indep _ _ _ _ (by simp)
    · simp [results]
    · simp [tagsOf]

/-- the tag loop has nothing to do on `tail`: it is empty, or does not begin with a tag, or the tag has no arm
(the `_ =>` arm of the generated `match`). -/
def Stops (arm : Arm) (tail : Bytes) : Prop := ∀ t r, tagDecDefault tail = .ok (t, r) → arm t tail = none

theorem stops_nil (arm : Arm) : Stops arm [] := by
  intro t r h; simp [tagDecDefault] at h

theorem tagLoop_stops (arm : Arm) (fuel cl : Nat) (tail : Bytes) (acc : List (Nat × Val)) (seen : List Nat)
    (h : Stops arm tail) : tagLoop arm (fuel + 1) cl tail acc seen = .ok (acc, seen, tail) := by
  simp only [tagLoop]
  split
  · rfl
  · cases htd : tagDecDefault tail with
    | error e => rfl
    | ok p => obtain ⟨t, r⟩ := p; simp only [h t r htd]

/-- **Groups, then stop**: the groups are consumed and everything behind them is handed back — at the end of
the input, or in front of a tag the struct does not know. -/
theorem loop_groups_stops (arm : Arm) (gs : List Group) (fuel currLen : Nat) (tail : Bytes)
    (acc : List (Nat × Val)) (seen : List Nat)
    (hok : ∀ g ∈ gs, GroupOK arm g) (hnd : (gs.map (·.t)).Nodup) (hns : ∀ g ∈ gs, g.t ∉ seen)
    (hcl : gs ≠ [] → currLen ≠ (flat gs ++ tail).length) (hlast : ∀ g, gs.getLast? = some g → g.Follows tail)
    (hstop : Stops arm tail) :
    tagLoop arm (gs.length + (fuel + 1)) currLen (flat gs ++ tail) acc seen = .ok (results gs acc, tagsOf gs seen, tail) := by
  rw [tagLoop_groups arm gs (fuel + 1) currLen tail acc seen hok hnd hns hcl hlast, tagLoop_stops arm _ _ _ _ _ hstop]

/-- every group has at least one byte, so there are enough rounds of fuel for all of them. -/
theorem length_le_flat (arm : Arm) : ∀ (gs : List Group), (∀ g ∈ gs, GroupOK arm g) → gs.length ≤ (flat gs).length
  | [], _ => by simp
  | g :: gs, hok => by
    have := length_le_flat arm gs (fun x hx => hok x (by simp [hx]))
    have := List.length_pos_iff.mpr (hok g (by simp)).1
    rw [flat_cons, List.length_append, List.length_cons]; omega

/-- after at least one group the loop's `curr_len` differs from what is left (progress was made). -/
theorem lastLen_ne (gs : List Group) (tail : Bytes) (cl : Nat) (hne : gs ≠ []) (hb : ∀ g ∈ gs, g.bytes ≠ []) :
    lastLen gs tail cl ≠ tail.length := by
  induction gs with
  | nil => exact absurd rfl hne
  | cons g gs ih =>
    cases gs with
    | nil =>
      have := List.length_pos_iff.mpr (hb g (by simp))
      simp only [lastLen, List.length_append]; omega
    | cons g' gs' =>
      simp only [lastLen]
      exact ih (by simp) (fun x hx => hb x (by simp [hx]))

end Zvt
