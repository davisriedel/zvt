/-
  ClientConnect.lean — the handshake (`inner::connect`: TCP connect, registration, identity check) walked once:
  `connect_end` lists the five ways it ends, each with what it left behind (`Shaking`: time, slots, the packets written
  on the new connection); time bound, outcome, slots and traffic of a handshake are read off those five cases.
-/
import ZvtVerif.Proofs.ClientSteps
namespace Zvt

theorem seqDesc_cmd (name : String) (cmd : Bytes) : (seqDesc name cmd).cmd = cmd := by
  unfold seqDesc
  split <;> rfl

/-- the four packets of a complete handshake: registration with the configured password and currency, the
acknowledgement of its completion, the identity request, the acknowledgement of the terminal's answer. -/
def handshakePackets (cfg : Cfg) : List Bytes := [registrationCmd cfg, ackBytes, sysInfoCmd, ackBytes]

/-- the socket `c2` in the world `w2`, somewhere in the handshake that `connect` began in the world `w`: the guard's
deadline is kept, exactly one slot was added and it is `c2`'s, the older slots are untouched, and `S` is what has been
written on the new slot. -/
structure Shaking (w : World) (S : List Bytes) (w2 : World) (c2 : ConnSt) : Prop where
  time : TimeRel (w.now + TIMEOUT) w w2
  nlogs : w2.logs.length = w.logs.length + 1
  id : c2.id = w.logs.length
  old : ∀ j, j < w.logs.length → w2.logs[j]? = w.logs[j]?
  wrote : w2.sentOn w.logs.length = S

theorem Shaking.exchange {w w1 : World} {S : List Bytes} {c1 : ConnSt} (h : Shaking w S w1 c1) (d : SeqDesc) :
    ∃ S', Shaking w (S ++ S') (onceExchange d (w.now + TIMEOUT) w1 c1).2.1 (onceExchange d (w.now + TIMEOUT) w1 c1).2.2 ∧
      match (onceExchange d (w.now + TIMEOUT) w1 c1).1 with
      | some (.ok _ _) => S' = [d.cmd, ackBytes]
      | _ => S' = [] ∨ S' = [d.cmd] := by
  -- the exchange is one first `next()` …
  obtain ⟨S', hs, shape⟩ := seqNext_writes d (w.now + TIMEOUT) w1 c1 .start (by rw [h.id, h.nlogs]; omega)
  have ht := seqNext_time d (w.now + TIMEOUT) w1 c1 .start
  have hf := seqNext_frame d (w.now + TIMEOUT) w1 c1 .start
  rw [h.id, h.wrote] at hs
  have hsh : Shaking w (S ++ S') (seqNext d (w.now + TIMEOUT) w1 c1 .start).2.1 (seqNext d (w.now + TIMEOUT) w1 c1 .start).2.2.1 :=
    ⟨h.time.trans ht, hf.nlogs.trans h.nlogs, hf.id.trans h.id,
     fun j hj => (hf.others j (by rw [h.id]; omega)).trans (h.old j hj), hs⟩
  simp only at shape
  unfold onceExchange
  generalize seqNext d (w.now + TIMEOUT) w1 c1 .start = q at hsh shape ⊢
  obtain ⟨o, w2, c2, st⟩ := q
  -- … of which only a decoded packet counts as an answer
  have notOk : o.isOk = false → S' = [] ∨ S' = [d.cmd] := fun h0 => by
    rcases shape with ⟨h, _⟩ | ⟨_, h⟩
    · rw [h0] at h; cases h
    · exact h
  refine ⟨S', by cases o <;> exact hsh, ?_⟩
  cases o with
  | hang => exact notOk rfl
  | ended => exact notOk rfl
  | item it =>
    cases it with
    | err => exact notOk rfl
    | ok i v =>
      rcases shape with ⟨_, h⟩ | ⟨h, _⟩
      · exact h
      · cases h

/-- the five ways `inner::connect` ends: refused; no answer to the TCP connect; the guard fires during the handshake;
the handshake fails or the terminal is the wrong one (what was written is a prefix of the handshake); vetted (all of it). -/
inductive ConnectEnd (cfg : Cfg) (w : World) : World × Bool → Prop
  | refuse : ConnectEnd cfg w ({ w with logs := w.logs ++ [[.refuse w.now]] }, false)
  | stall : ConnectEnd cfg w ({ w with logs := w.logs ++ [[.stall w.now]], now := w.now + TIMEOUT }, false)
  | hang {S : List Bytes} {w2 : World} {c2 : ConnSt} : Shaking w S w2 c2 → S <+: handshakePackets cfg →
      ConnectEnd cfg w (dropConn { w2 with now := w.now + TIMEOUT } c2, false)
  | reject {S : List Bytes} {w2 : World} {c2 : ConnSt} : Shaking w S w2 c2 → S <+: handshakePackets cfg →
      ConnectEnd cfg w (dropConn w2 c2, false)
  | vetted {w2 : World} {c2 : ConnSt} : Shaking w (handshakePackets cfg) w2 c2 →
      ConnectEnd cfg w ({ w2 with conn := some c2 }, true)

theorem connect_end (cfg : Cfg) (w : World) : ConnectEnd cfg w (connect cfg w) := by
  unfold connect
  simp only
  -- (`if_pos` / `if_neg` and not `split`: the other branch is the whole handshake)
  by_cases hr : w.connects.getD w.logs.length "accept" = "refuse"
  · rw [if_pos hr]; exact .refuse
  · rw [if_neg hr]
    by_cases hs : w.connects.getD w.logs.length "accept" = "stall"
    · rw [if_pos hs]; exact .stall
    · rw [if_neg hs]
      have h0 : Shaking w [] { w with logs := w.logs ++ [[.opened w.now]] } { id := w.logs.length } :=
        ⟨TimeRel.of_eq _ _ _ rfl rfl, by simp, rfl, fun j hj => List.getElem?_append_left hj, by simp [World.sentOn, sent]⟩
      obtain ⟨S1, h1, sh1⟩ := h0.exchange (seqDesc "sequences::Registration" (registrationCmd cfg))
      rw [seqDesc_cmd] at sh1
      have pre1 : S1 = [] ∨ S1 = [registrationCmd cfg] → [] ++ S1 <+: handshakePackets cfg := by
        rintro (rfl | rfl) <;> exact ⟨_, rfl⟩
      generalize onceExchange (seqDesc "sequences::Registration" (registrationCmd cfg)) (w.now + TIMEOUT) _ _ = q1 at h1 sh1 ⊢
      obtain ⟨o, w1, c1⟩ := q1
      cases o with
      | none => exact .hang h1 (pre1 sh1)
      | some it =>
        cases it with
        | err => exact .reject h1 (pre1 sh1)
        | ok i v =>
          simp only at sh1 ⊢
          subst sh1
          obtain ⟨S2, h2, sh2⟩ := h1.exchange (seqDesc "feig::sequences::GetSystemInfo" sysInfoCmd)
          rw [seqDesc_cmd] at sh2
          have pre2 : S2 = [] ∨ S2 = [sysInfoCmd] → [] ++ [registrationCmd cfg, ackBytes] ++ S2 <+: handshakePackets cfg := by
            rintro (rfl | rfl) <;> exact ⟨_, rfl⟩
          generalize onceExchange (seqDesc "feig::sequences::GetSystemInfo" sysInfoCmd) (w.now + TIMEOUT) w1 c1 = q2 at h2 sh2 ⊢
          obtain ⟨o2, w2, c2⟩ := q2
          cases o2 with
          | none => exact .hang h2 (pre2 sh2)
          | some it2 =>
            cases it2 with
            | err => exact .reject h2 (pre2 sh2)
            | ok i2 v2 =>
              simp only at sh2 ⊢
              subst sh2
              split
              · split
                · exact .vetted h2
                · exact .reject h2 (List.prefix_refl _)
              · exact .reject h2 (List.prefix_refl _)

theorem connect_time (cfg : Cfg) (w : World) :
    (connect cfg w).1.gap = w.gap ∧ w.now ≤ (connect cfg w).1.now ∧ (connect cfg w).1.now ≤ w.now + TIMEOUT ∧
    (w.gap = 0 → (connect cfg w).1.now = w.now ∨ (connect cfg w).1.now = w.now + TIMEOUT) := by
  have h := connect_end cfg w
  generalize connect cfg w = r at h ⊢
  have within {S : List Bytes} {w2 w' : World} {c2 : ConnSt} (h : Shaking w S w2 c2) (hn : w'.now = w2.now) (hg : w'.gap = w2.gap) :
      w'.gap = w.gap ∧ w.now ≤ w'.now ∧ w'.now ≤ w.now + TIMEOUT ∧ (w.gap = 0 → w'.now = w.now ∨ w'.now = w.now + TIMEOUT) := by
    rw [hn, hg]
    exact ⟨h.time.gap, h.time.ge, h.time.le (Nat.le_add_right _ _), fun hg => Or.inl (h.time.zero hg)⟩
  cases h with
  | refuse => exact ⟨rfl, Nat.le_refl _, Nat.le_add_right _ _, fun _ => Or.inl rfl⟩
  | stall => exact ⟨rfl, Nat.le_add_right _ _, Nat.le_refl _, fun _ => Or.inr rfl⟩
  | @hang _ w2 c2 h _ =>
    have hn : (dropConn { w2 with now := w.now + TIMEOUT } c2).now = w.now + TIMEOUT := dropConn_now _ _
    exact ⟨(dropConn_gap _ _).trans h.time.gap, by rw [hn]; exact Nat.le_add_right _ _, Nat.le_of_eq hn, fun _ => Or.inr hn⟩
  | reject h _ => exact within h (dropConn_now _ _) (dropConn_gap _ _)
  | vetted h => exact within h rfl rfl

theorem connect_gap (cfg : Cfg) (w : World) : (connect cfg w).1.gap = w.gap := (connect_time cfg w).1

theorem connect_now (cfg : Cfg) (w : World) (hg : w.gap = 0) :
    (connect cfg w).1.now = w.now ∨ (connect cfg w).1.now = w.now + TIMEOUT := (connect_time cfg w).2.2.2 hg

theorem connect_outcome (cfg : Cfg) (w : World) :
    ((connect cfg w).2 = true → ∃ c, (connect cfg w).1.conn = some c ∧ c.id = w.logs.length) ∧
    ((connect cfg w).2 = false → (connect cfg w).1.conn = none ∨ (connect cfg w).1.conn = w.conn) := by
  have h := connect_end cfg w
  generalize connect cfg w = r at h ⊢
  cases h with
  | refuse => exact ⟨nofun, fun _ => Or.inr rfl⟩
  | stall => exact ⟨nofun, fun _ => Or.inr rfl⟩
  | hang h _ => exact ⟨nofun, fun _ => Or.inl (dropConn_conn _ _)⟩
  | reject h _ => exact ⟨nofun, fun _ => Or.inl (dropConn_conn _ _)⟩
  | vetted h => exact ⟨fun _ => ⟨_, rfl, h.id⟩, nofun⟩

theorem connect_live (cfg : Cfg) (w : World) (c' : ConnSt) (h : (connect cfg w).1.conn = some c') :
    c'.id = w.logs.length ∨ w.conn = some c' := by
  cases hb : (connect cfg w).2 with
  | true =>
    obtain ⟨c, h1, h2⟩ := (connect_outcome cfg w).1 hb
    rw [h1] at h; cases h; exact .inl h2
  | false =>
    rcases (connect_outcome cfg w).2 hb with h1 | h1 <;> rw [h1] at h
    · cases h
    · exact .inr h

theorem connect_slots (cfg : Cfg) (w : World) :
    (connect cfg w).1.logs.length = w.logs.length + 1 ∧
    ∀ j, j < w.logs.length → (connect cfg w).1.logs[j]? = w.logs[j]? := by
  have h := connect_end cfg w
  generalize connect cfg w = r at h ⊢
  have dropped {S : List Bytes} {w2 w2' : World} {c2 : ConnSt} (h : Shaking w S w2 c2) (hl : w2'.logs = w2.logs) :
      (dropConn w2' c2).logs.length = w.logs.length + 1 ∧ ∀ j, j < w.logs.length → (dropConn w2' c2).logs[j]? = w.logs[j]? :=
    ⟨by rw [dropConn_nlogs, hl]; exact h.nlogs,
     fun j hj => by rw [dropConn_others _ _ j (by rw [h.id]; omega), hl]; exact h.old j hj⟩
  cases h with
  | refuse => exact ⟨by simp, fun j hj => List.getElem?_append_left hj⟩
  | stall => exact ⟨by simp, fun j hj => List.getElem?_append_left hj⟩
  | hang h _ => exact dropped h rfl
  | reject h _ => exact dropped h rfl
  | vetted h => exact ⟨h.nlogs, h.old⟩

theorem connect_traffic (cfg : Cfg) (w : World) :
    (connect cfg w).1.sentOn w.logs.length <+: handshakePackets cfg ∧
    ((connect cfg w).2 = true → (connect cfg w).1.sentOn w.logs.length = handshakePackets cfg) := by
  have hnew : ∀ (x : LogE) (t : Nat), ({ w with logs := w.logs ++ [[x]], now := t } : World).sentOn w.logs.length = sent [x] := by
    intro x t; simp [World.sentOn]
  have h := connect_end cfg w
  generalize connect cfg w = r at h ⊢
  cases h with
  | refuse => exact ⟨by rw [hnew]; exact List.nil_prefix, nofun⟩
  | stall => exact ⟨by rw [hnew]; exact List.nil_prefix, nofun⟩
  | hang h hp => exact ⟨by rw [dropConn_sentOn]; exact h.wrote ▸ hp, nofun⟩
  | reject h hp => exact ⟨by rw [dropConn_sentOn, h.wrote]; exact hp, nofun⟩
  | @vetted w2 c2 h =>
    have hw : ({ w2 with conn := some c2 } : World).sentOn w.logs.length = handshakePackets cfg := h.wrote
    exact ⟨by rw [hw]; exact List.prefix_refl _, fun _ => hw⟩

end Zvt
