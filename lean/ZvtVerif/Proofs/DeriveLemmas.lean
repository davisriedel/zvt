/-
  DeriveLemmas.lean — the shape of the generic `<TAG><LENGTH><DATA>` triple (`serTagged`, `deserTagged`), of the
  generated `encode` / `decode` on one more field (`encFields_cons`, `decPos_cons_*`, `armFind_cons`, `armFind_skip`) and
  of `Ty.de` on the types that are neither `Option` nor `Vec`, so that proofs need not unfold these definitions.
-/
import ZvtVerif.Derive
namespace Zvt

theorem serTagged_ok (tagEnc : Nat → Bytes) (L : LenKind) (tag : Option Nat) (p pre : Bytes) (h : L.ser p.length = .ok pre) :
    serTagged tagEnc L tag (.ok p) = .ok (tagPrefix tagEnc tag ++ (pre ++ p)) := by
  simp [serTagged, h]

/-- when `deserialize_tagged` succeeds, and with what: the tag is stripped, the length prefix announces `n`
bytes that are there, the payload decoder reads the first `n` bytes and leaves `rem`, and what is handed back
begins at `n - rem.len()`. -/
theorem deserTagged_eq_ok {α : Type} (tagDec : Bytes → Res (Nat × Bytes)) (L : LenKind)
    (dec : Bytes → Res (α × Bytes)) (tag : Option Nat) (b : Bytes) (v : α) (r : Bytes) :
    deserTagged tagDec L dec tag b = .ok (v, r) ↔
      ∃ b1 n pl rem, stripTag tagDec tag b = .ok b1 ∧ L.de b1 = .ok (n, pl) ∧ n ≤ pl.length ∧
        dec (pl.take n) = .ok (v, rem) ∧ rem.length ≤ n ∧ r = pl.drop (n - rem.length) := by
  unfold deserTagged
  constructor
  · intro h
    split at h
    next => cases h
    next b1 hs =>
      split at h
      next => cases h
      next n pl hl =>
        split at h
        next => cases h
        next hle =>
          split at h
          next => cases h
          next v' rem hd =>
            split at h
            next => cases h
            next hr =>
              cases h
              exact ⟨b1, n, pl, rem, hs, hl, by omega, hd, by omega, rfl⟩
  · rintro ⟨b1, n, pl, rem, hs, hl, hle, hd, hr, rfl⟩
    have h1 : ¬ (n > pl.length) := by omega
    have h2 : ¬ (rem.length > n) := by omega
    simp only [hs, hl, h1, if_false, hd, h2]

/-- what `deserTagged` does with an expected tag: check it, then go on as without. -/
theorem deserTagged_some {α : Type} (tagDec : Bytes → Res (Nat × Bytes)) (L : LenKind) (dec : Bytes → Res (α × Bytes))
    (t : Nat) (b : Bytes) :
    deserTagged tagDec L dec (some t) b =
      match tagDec b with
      | .error e => .error e
      | .ok (a, r) => if a ≠ t then .error (.wrongTag a) else deserTagged tagDec L dec none r := by
  unfold deserTagged stripTag
  cases tagDec b with
  | error e => rfl
  | ok p =>
    obtain ⟨a, r⟩ := p
    by_cases h : a ≠ t
    · simp only [if_pos h]
    · simp only [if_neg h]

theorem deserTagged_empty_ok {α : Type} (tagDec : Bytes → Res (Nat × Bytes)) (tag : Option Nat)
    (dec : Bytes → Res (α × Bytes)) (b p rem : Bytes) (v : α)
    (hs : stripTag tagDec tag b = .ok (p ++ rem)) (hd : dec (p ++ rem) = .ok (v, rem)) :
    deserTagged tagDec .empty dec tag b = .ok (v, rem) :=
  (deserTagged_eq_ok ..).mpr ⟨p ++ rem, (p ++ rem).length, p ++ rem, rem, hs, rfl, Nat.le_refl _,
    by rw [List.take_length]; exact hd, by simp, by simp⟩

/-! ### the generated `encode` / `decode` on one more field (in terms of the field's projections) -/

theorem encFields_cons (f : Field) (fs : List Field) (v : Val) (vs : List Val) :
    encFields (f :: fs) (v :: vs) =
      match Ty.ser f.ty f.len f.enc f.tag v, encFields fs vs with
      | .ok a, .ok b => .ok (a ++ b)
      | .error e, _ => .error e
      | _, .error e => .error e := by
  cases f; simp only [encFields]; rfl

theorem decPos_cons_tagged (f : Field) (fs : List Field) (b : Bytes) (h : f.tag ≠ none) : decPos (f :: fs) b = decPos fs b := by
  obtain ⟨_, tag, _, _, _⟩ := f
  cases tag with
  | none => exact absurd rfl h
  | some t => simp only [decPos]

theorem decPos_cons_pos (f : Field) (fs : List Field) (b : Bytes) (h : f.tag = none) :
    decPos (f :: fs) b =
      match Ty.de f.ty f.len f.enc none b with
      | .error e => .error e
      | .ok (v, r) =>
        match decPos fs r with
        | .error e => .error e
        | .ok (vs, r') => .ok (v :: vs, r') := by
  obtain ⟨_, tag, _, _, _⟩ := f
  cases h; simp only [decPos]; rfl

theorem armFind_cons (f : Field) (fs : List Field) (t i : Nat) (b : Bytes) :
    armFind (f :: fs) t i b = if f.tag = some t then some (i, Ty.de f.ty f.len f.enc (some t) b) else armFind fs t (i + 1) b := by
  cases f; simp only [armFind]; rfl

theorem armFind_skip : ∀ (pre fs : List Field) (t i : Nat) (b : Bytes), (∀ f ∈ pre, f.tag ≠ some t) →
    armFind (pre ++ fs) t i b = armFind fs t (i + pre.length) b
  | [], _, _, _, _, _ => rfl
  | f :: pre, fs, t, i, b, h => by
    rw [List.cons_append, armFind_cons, if_neg (h f (by simp)),
      armFind_skip pre fs t (i + 1) b fun g hg => h g (by simp [hg]), List.length_cons]
    congr 1; omega

theorem decPos_tagged : ∀ (fs : List Field) (b : Bytes), (∀ f ∈ fs, f.tag ≠ none) → decPos fs b = .ok ([], b)
  | [], _, _ => by simp only [decPos]
  | f :: fs, b, h => by
    rw [decPos_cons_tagged f fs b (h f (by simp))]
    exact decPos_tagged fs b fun g hg => h g (by simp [hg])

/-- not `Option`/`Vec` (what may stand inside an `Option` or a `Vec`). -/
def Ty.plain : Ty → Bool
  | .opt _ => false
  | .vec _ => false
  | _ => true

/-- what `deserialize_tagged` of a type that is neither `Option` nor `Vec` runs on the payload. -/
def payloadDec : Ty → Enc → Bytes → Res (Val × Bytes)
  | .struct fs, _ => decStruct fs
  | t, E => leafDec E t

theorem de_plain (t : Ty) (hp : t.plain = true) (L : LenKind) (E : Enc) (tag : Option Nat) (b : Bytes) :
    Ty.de t L E tag b = deserTagged tagDecDefault L (payloadDec t E) tag b := by
  cases t with
  | opt | vec => cases hp
  | struct fs => simp only [Ty.de, payloadDec]; rfl
  | int | str | bytes | dateTime => simp only [Ty.de, payloadDec]

def IsLeafTy : Ty → Prop
  | .int _ => True
  | .str => True
  | .bytes => True
  | .dateTime => True
  | _ => False

theorem leaf_de_eq (t : Ty) (ht : IsLeafTy t) (L : LenKind) (E : Enc) (tag : Option Nat) (b : Bytes) :
    Ty.de t L E tag b = deserTagged tagDecDefault L (leafDec E t) tag b := by
  cases t with
  | struct | opt | vec => exact ht.elim
  | int | str | bytes | dateTime => simp only [Ty.de]

end Zvt
