/-
  EncodingLemmas.lean — the value encodings of Encoding.lean: packed BCD against the unbounded value of a digit string
  (`bcdValFrom`, `bcdDec_spec`), tags, hex text, the one kernel sweep over the CP437 table and CP437 text → bytes → text
  (`cp437_text_roundtrip`).
-/
import ZvtVerif.Encoding
import ZvtVerif.Proofs.BytesLemmas
namespace Zvt

/-- unbounded value of a BCD digit string (the specification of the decoder). -/
def bcdValFrom : Nat → Bytes → Nat
  | rv, [] => rv
  | rv, d :: ds =>
    let high := d.toNat / 16
    let low := d.toNat % 16
    bcdValFrom (if low ≠ 15 then rv * 100 + high * 10 + low else rv * 10 + high) ds

def bcdNext (rv : Nat) (d : UInt8) : Nat :=
  if d.toNat % 16 ≠ 15 then rv * 100 + d.toNat / 16 * 10 + d.toNat % 16 else rv * 10 + d.toNat / 16

theorem bcdValFrom_cons (rv : Nat) (d : UInt8) (ds : Bytes) : bcdValFrom rv (d :: ds) = bcdValFrom (bcdNext rv d) ds := rfl

theorem bcdDecFrom_cons (w rv : Nat) (d : UInt8) (ds : Bytes) :
    bcdDecFrom w rv (d :: ds) = if bcdNext rv d < 256 ^ w then bcdDecFrom w (bcdNext rv d) ds else .error .incomplete := by
  simp only [bcdDecFrom, bcdStep]
  -- the same goal with the step's new value folded back to `bcdNext rv d`, so that `h` below rewrites the guard
  show (match (if bcdNext rv d < 256 ^ w then (Except.ok (bcdNext rv d) : Res Nat) else Except.error Err.incomplete) with
        | Except.error e => (Except.error e : Res Nat) | Except.ok nx => bcdDecFrom w nx ds) = _
  by_cases h : bcdNext rv d < 256 ^ w <;> simp [h]

theorem le_bcdValFrom (ds : Bytes) : ∀ rv, rv ≤ bcdValFrom rv ds := by
  induction ds with
  | nil => intro rv; simp [bcdValFrom]
  | cons d ds ih =>
    intro rv
    simp only [bcdValFrom]
    split <;> exact Nat.le_trans (by omega) (ih _)

theorem bcdDecFrom_spec (w : Nat) (ds : Bytes) : ∀ rv, rv < 256 ^ w →
    bcdDecFrom w rv ds = if bcdValFrom rv ds < 256 ^ w then .ok (bcdValFrom rv ds) else .error .incomplete := by
  induction ds with
  | nil => intro rv h; simp [bcdDecFrom, bcdValFrom, h]
  | cons d ds ih =>
    intro rv h
    rw [bcdDecFrom_cons, bcdValFrom_cons]
    by_cases hfit : bcdNext rv d < 256 ^ w
    · simp only [hfit, if_true]
      exact ih _ hfit
    · simp only [hfit, if_false]
      have := le_bcdValFrom ds (bcdNext rv d)
      have : ¬ bcdValFrom (bcdNext rv d) ds < 256 ^ w := by omega
      simp [this]

/-- `bcdDec` in one equation: the unbounded value if it fits, `IncompleteData` otherwise. -/
theorem bcdDec_spec (w : Nat) (ds : Bytes) :
    bcdDec w ds = if bcdValFrom 0 ds < 256 ^ w then .ok (bcdValFrom 0 ds, []) else .error .incomplete := by
  unfold bcdDec
  rw [bcdDecFrom_spec w ds 0 (Nat.pow_pos (by decide))]
  by_cases h : bcdValFrom 0 ds < 256 ^ w <;> simp only [h, if_true, if_false]

theorem bcdValFrom_append (xs ys : Bytes) : ∀ rv, bcdValFrom rv (xs ++ ys) = bcdValFrom (bcdValFrom rv xs) ys := by
  induction xs with
  | nil => intro rv; rfl
  | cons x xs ih => intro rv; exact ih _

theorem bcdEnc_zero : bcdEnc 0 = [] := by
  rw [bcdEnc]; simp

theorem bcdEnc_pos (k : Nat) (h : k ≠ 0) : bcdEnc k = bcdEnc (k / 100) ++ [byte ((k / 10 % 10) * 16 + k % 10)] := by
  rw [bcdEnc]; simp [h]

theorem bcdEncFuel_eq : ∀ (fuel k : Nat), k ≤ fuel → bcdEncFuel fuel k = bcdEnc k := by
  intro fuel
  induction fuel with
  | zero => intro k h; have : k = 0 := by omega
            subst this; simp [bcdEncFuel, bcdEnc_zero]
  | succ fuel ih =>
    intro k h
    by_cases h0 : k = 0
    · subst h0; simp [bcdEncFuel, bcdEnc_zero]
    · rw [bcdEnc_pos k h0]
      simp only [bcdEncFuel, h0, if_false]
      rw [ih (k / 100) (by omega)]

/-- the kernel-evaluable encoder is the same function. -/
theorem bcdEncK_eq (k : Nat) : bcdEncK k = bcdEnc k := bcdEncFuel_eq k k (Nat.le_refl k)

theorem bcdValFrom_bcdEnc (k : Nat) : bcdValFrom 0 (bcdEnc k) = k := by
  induction k using Nat.strongRecOn with
  | _ k ih =>
    by_cases h0 : k = 0
    · subst h0; rw [bcdEnc_zero]; rfl
    · have ⟨e1, e2⟩ := byte_nibbles (k / 10 % 10) (k % 10) (mod_ten_lt _) (mod_ten_lt _)
      rw [bcdEnc_pos k h0, bcdValFrom_append, ih (k / 100) (Nat.div_lt_self (Nat.pos_of_ne_zero h0) (by decide)),
        bcdValFrom_cons, bcdNext, e1, e2, if_pos (Nat.ne_of_lt (Nat.lt_trans (Nat.mod_lt k (by decide)) (by decide)))]
      exact digits_3 10 k

theorem bcdDec_bcdEnc (w k : Nat) (hk : k < 256 ^ w) : bcdDec w (bcdEnc k) = .ok (k, []) := by
  rw [bcdDec_spec, bcdValFrom_bcdEnc, if_pos hk]

theorem bcdEnc_digits : ∀ k, ∀ b ∈ bcdEnc k, b.toNat / 16 ≤ 9 ∧ b.toNat % 16 ≤ 9 := by
  intro k
  induction k using Nat.strongRecOn with
  | _ k ih =>
    intro b hb
    by_cases h0 : k = 0
    · subst h0; rw [bcdEnc_zero] at hb; cases hb
    · rw [bcdEnc_pos k h0] at hb
      rcases List.mem_append.mp hb with hb | hb
      · exact ih (k / 100) (Nat.div_lt_self (Nat.pos_of_ne_zero h0) (by decide)) b hb
      · have ⟨e1, e2⟩ := byte_nibbles (k / 10 % 10) (k % 10) (mod_ten_lt _) (mod_ten_lt _)
        rw [List.mem_singleton.mp hb, e1, e2]
        exact ⟨Nat.le_of_lt_succ (Nat.mod_lt _ (by decide)), Nat.le_of_lt_succ (Nat.mod_lt _ (by decide))⟩

/-- number of bytes: two digits per byte, no leading zero byte. -/
theorem bcdEnc_length_le (n : Nat) : ∀ k, k < 100 ^ n → (bcdEnc k).length ≤ n := by
  induction n with
  | zero => intro k h; simp at h; subst h; simp [bcdEnc_zero]
  | succ n ih =>
    intro k h
    by_cases h0 : k = 0
    · subst h0; simp [bcdEnc_zero]
    · rw [bcdEnc_pos k h0]
      have : k / 100 < 100 ^ n := by rw [Nat.pow_succ] at h; omega
      have := ih _ this
      simp; omega

/-- leading zero bytes (the padding `Fixed<N>` adds) do not change the value. -/
theorem bcdValFrom_zeros (k : Nat) (xs : Bytes) : bcdValFrom 0 (List.replicate k 0 ++ xs) = bcdValFrom 0 xs := by
  induction k with
  | zero => rfl
  | succ k ih => exact ih

def tagRepresentable (t : Nat) : Prop :=
  (t < 256 ∧ t ≠ 0x1f ∧ t ≠ 0xff) ∨ (t < 65536 ∧ (t / 256 = 0x1f ∨ t / 256 = 0xff))

instance (t : Nat) : Decidable (tagRepresentable t) := by unfold tagRepresentable; infer_instance

theorem tagDecDefault_reads (b : Bytes) : ReadsPrefix tagDecDefault b := by
  match b with
  | [] => exact .inl ⟨_, rfl, rfl⟩
  | t :: rest =>
    by_cases h : t.toNat = 0x1f ∨ t.toNat = 0xff
    · match rest with
      | [] => exact .inl ⟨.incomplete, by simp only [tagDecDefault, if_pos h], rfl⟩
      | l :: rest' =>
        exact .inr ⟨[t, l], rest', t.toNat * 256 + l.toNat, rfl, fun x => by
          simp only [tagDecDefault, List.cons_append, List.nil_append, if_pos h]⟩
    · exact .inr ⟨[t], rest, t.toNat, rfl, fun x => by simp only [tagDecDefault, List.cons_append, List.nil_append, if_neg h]⟩

theorem tagDecDefault_np (b : Bytes) : NP (tagDecDefault b) b := (tagDecDefault_reads b).np

theorem tagDecDefault_lt (b : Bytes) (t : Nat) (r : Bytes) (h : tagDecDefault b = .ok (t, r)) : r.length < b.length := by
  unfold tagDecDefault at h
  match b, h with
  | t0 :: rest, h =>
    simp only at h
    split at h
    · match rest, h with
      | l :: rest', h => simp at h; rw [← h.2]; simp; omega
    · simp at h; rw [← h.2]; simp

theorem hexVal_hexDigit (n : Nat) (h : n < 16) : hexVal (hexDigit n) = some n := by
  unfold hexDigit
  by_cases lt : n < 10
  · rw [if_pos lt, hexVal, if_pos ⟨Nat.le_add_right 48 n, Nat.add_le_add_left (Nat.le_of_lt_succ lt) 48⟩,
      Nat.add_sub_cancel_left]
  · have ge := Nat.le_of_not_lt lt
    rw [if_neg lt, hexVal, if_neg (fun hc => absurd hc.2 (by omega)),
      if_pos ⟨Nat.add_le_add_left ge 87, Nat.add_le_add_left (Nat.le_of_lt_succ h) 87⟩, Nat.add_sub_cancel_left]

def isLowerHex (c : Nat) : Bool := (48 ≤ c ∧ c ≤ 57) ∨ (97 ≤ c ∧ c ≤ 102)

/-- a lower-case digit is the one `hexDigit` writes for its value (an upper-case one is not). -/
theorem hexDigit_hexVal (c v : Nat) (hl : isLowerHex c = true) (h : hexVal c = some v) : hexDigit v = c ∧ v < 16 := by
  simp only [isLowerHex, decide_eq_true_eq] at hl
  unfold hexVal at h
  unfold hexDigit
  rcases hl with hd | ha
  · rw [if_pos hd] at h; cases h
    have lt : c - 48 < 10 := by omega
    exact ⟨by rw [if_pos lt, Nat.add_sub_cancel' hd.1], Nat.lt_trans lt (by decide)⟩
  · rw [if_neg (fun hd => absurd (Nat.le_trans ha.1 hd.2) (by decide)), if_pos ha] at h; cases h
    have ge : ¬ c - 87 < 10 := by omega
    exact ⟨by rw [if_neg ge, Nat.add_sub_cancel' (Nat.le_trans (by decide) ha.1)], by omega⟩

theorem hexDecode_hexEncode : ∀ (cs : List Nat) (b : Bytes), (∀ c ∈ cs, isLowerHex c = true) →
    hexEncodeStr cs = .ok b → hexDecodeStr b = cs
  | [], b, _, h => by cases h; rfl
  | [_], b, _, h => by cases h
  | hc :: lc :: cs, b, hl, h => by
    simp only [hexEncodeStr] at h
    split at h
    · next hv lv hh hlv =>
      split at h
      · cases h
      · next bs hr =>
        cases h
        have ⟨e1, l1⟩ := hexDigit_hexVal hc hv (hl hc (by simp)) hh
        have ⟨e2, l2⟩ := hexDigit_hexVal lc lv (hl lc (by simp)) hlv
        have ⟨n1, n2⟩ := byte_nibbles hv lv l1 l2
        rw [hexDecodeStr, n1, n2, e1, e2, hexDecode_hexEncode cs bs (fun c hc' => hl c (by simp [hc'])) hr]
    · cases h

/-- the one sweep over the table: every entry is found (first) at its own position, and is not ASCII. -/
theorem cp437High_idx : ∀ p ∈ cp437High.zipIdx, idxIn p.1 cp437High 0 = some p.2 ∧ 128 ≤ p.1 := by
  decide +kernel

theorem cp437High_length : cp437High.length = 128 := by decide +kernel

theorem cp437High_getElem (i : Nat) (h : i < cp437High.length) :
    idxIn cp437High[i] cp437High 0 = some i ∧ 128 ≤ cp437High[i] :=
  cp437High_idx (cp437High[i], i) (List.mk_mem_zipIdx_iff_getElem?.mpr (List.getElem?_eq_getElem h))

theorem cp437High_ge : ∀ c ∈ cp437High, 128 ≤ c := by
  intro c hc
  obtain ⟨i, h, rfl⟩ := List.mem_iff_getElem.mp hc
  exact (cp437High_getElem i h).2

theorem cp437High_nodup : cp437High.Nodup := by
  refine List.pairwise_iff_getElem.mpr fun i j hi hj hij e => ?_
  have := (cp437High_getElem i hi).1
  rw [e, (cp437High_getElem j hj).1] at this
  cases this
  omega

/-! text → bytes → text (the other direction, every byte string, is `C17.cp437_roundtrip_bytes`) -/

theorem idxIn_spec (c : Nat) : ∀ (l : List Nat) (i j : Nat), idxIn c l i = some j → i ≤ j ∧ l[j - i]? = some c := by
  intro l
  induction l with
  | nil => intro i j h; simp [idxIn] at h
  | cons x xs ih =>
    intro i j h
    simp only [idxIn] at h
    split at h
    · rename_i hx; simp at h; subst h; simp [hx]
    · obtain ⟨h1, h2⟩ := ih (i + 1) j h
      refine ⟨by omega, ?_⟩
      have : j - i = (j - (i + 1)) + 1 := by omega
      rw [this]; simpa using h2

theorem cpDecode_cpEncode (c : Nat) (b : UInt8) (h : cpEncode c = some b) : cpDecode b = c := by
  unfold cpEncode at h
  split at h
  · rename_i hc
    simp at h; subst h
    unfold cpDecode
    have : (byte c).toNat = c := byte_toNat_lt (by omega)
    simp [this, hc]
  · cases hi : idxIn c cp437High 0 with
    | none => simp [hi] at h
    | some i =>
      simp only [hi] at h
      simp at h; subst h
      obtain ⟨_, hget⟩ := idxIn_spec c cp437High 0 i hi
      simp only [Nat.sub_zero] at hget
      have hlt : i < 128 := by
        have := (List.getElem?_eq_some_iff.mp hget).1
        rw [cp437High_length] at this; exact this
      unfold cpDecode
      have : (byte (128 + i)).toNat = 128 + i := byte_toNat_lt (by omega)
      rw [this]
      have h2 : ¬ (128 + i < 128) := by omega
      simp only [h2, if_false]
      have : 128 + i - 128 = i := by omega
      rw [this, List.getD_eq_getElem?_getD, hget]; rfl

theorem map_cpDecode_of_encode : ∀ (cs : List Nat) (b : Bytes), cpEncodeStr cs = .ok b → b.map cpDecode = cs
  | [], b, h => by simp [cpEncodeStr] at h; subst h; rfl
  | c :: cs, b, h => by
    simp only [cpEncodeStr] at h
    cases hc : cpEncode c with
    | none => simp [hc] at h
    | some x =>
      simp only [hc] at h
      cases hr : cpEncodeStr cs with
      | error e => simp [hr] at h
      | ok bs =>
        simp only [hr] at h
        simp at h; subst h
        simp [cpDecode_cpEncode c x hc, map_cpDecode_of_encode cs bs hr]

theorem cpEncodeStr_length : ∀ (cs : List Nat) (b : Bytes), cpEncodeStr cs = .ok b → b.length = cs.length := by
  intro cs b h
  rw [← map_cpDecode_of_encode cs b h, List.length_map]

/-- text that does not end in NUL is not touched by `trim_end_matches('\0')`. -/
theorem trimNul_id (cs : List Nat) (h : cs.getLast? ≠ some 0) : trimNul cs = cs := by
  unfold trimNul
  cases hr : cs.reverse with
  | nil => have : cs = [] := by simpa using hr
           subst this; rfl
  | cons a r =>
    have hcs : cs = (a :: r).reverse := by rw [← hr]; simp
    have hl : cs.getLast? = some a := by rw [hcs]; simp
    have ha : a ≠ 0 := by intro h0; apply h; rw [hl, h0]
    simp only [List.dropWhile_cons, ha, decide_false]
    rw [hcs]; simp

/-- **CP437 text** survives encode → decode if it is in the repertoire (the encoder accepts it) and does not end in NUL. -/
theorem cp437_text_roundtrip (cs : List Nat) (b : Bytes) (h : cpEncodeStr cs = .ok b) (hn : cs.getLast? ≠ some 0) :
    cpDecodeStr b = cs := by
  unfold cpDecodeStr
  rw [map_cpDecode_of_encode cs b h, trimNul_id cs hn]

end Zvt
