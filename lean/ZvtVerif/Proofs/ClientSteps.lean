/-
  ClientSteps.lean — the primitive steps of the client on one connection and one `stream.next()` built from them.

  A write appends to ONE log (`Logged`); a read under a deadline only moves the clock, within the deadline
  (`readBy_spec`); one `next()` is a write and reads (`seqNext_start_cases`, `seqNext_looping_cases`). What the steps keep
  — time and pace (`TimeRel`), the live connection and every other slot (`FrameRel`), what was sent (`World.sentOn`) —
  a `next()` keeps (`seqNext_lift`, `seqNext_writes`).
-/
import ZvtVerif.Client
namespace Zvt

@[simp] theorem log_now (w : World) (k : Nat) (s : LogE) : (w.log k s).now = w.now := rfl
@[simp] theorem log_conn (w : World) (k : Nat) (s : LogE) : (w.log k s).conn = w.conn := rfl
@[simp] theorem log_gap (w : World) (k : Nat) (s : LogE) : (w.log k s).gap = w.gap := rfl
@[simp] theorem waited_gap (w : World) (k : Nat) : (w.waited k).gap = w.gap := rfl
@[simp] theorem waited_conn (w : World) (k : Nat) : (w.waited k).conn = w.conn := rfl
@[simp] theorem waited_logs (w : World) (k : Nat) : (w.waited k).logs = w.logs := rfl
theorem waited_now_ge (w : World) (k : Nat) : w.now ≤ (w.waited k).now := Nat.le_add_right _ _
theorem waited_now0 (w : World) (k : Nat) (hg : w.gap = 0) : (w.waited k).now = w.now := by
  simp [World.waited, hg]

@[simp] theorem log_nlogs (w : World) (k : Nat) (s : LogE) : (w.log k s).logs.length = w.logs.length := by
  simp [World.log]

theorem log_other (w : World) (k j : Nat) (s : LogE) (h : j ≠ k) : (w.log k s).logs[j]? = w.logs[j]? := by
  simp only [World.log, List.getElem?_modify]
  have : ¬ k = j := fun e => h e.symm
  cases w.logs[j]? <;> simp [this]

/-- the packets the client sent, in order, according to a connection log. -/
def sent (l : List LogE) : List Bytes :=
  l.filterMap fun e => match e with
    | .rx p => some p
    | _ => none

def World.sentOn (w : World) (k : Nat) : List Bytes := sent ((w.logs[k]?).getD [])

theorem sent_append (a b : List LogE) : sent (a ++ b) = sent a ++ sent b := by simp [sent, List.filterMap_append]

/-- `w'` is `w` with the entries `l` appended to the log of slot `k`: clock, pace and cached connection are the same
(the reply queues may differ). -/
structure Logged (k : Nat) (l : List LogE) (w w' : World) : Prop where
  now : w'.now = w.now
  gap : w'.gap = w.gap
  conn : w'.conn = w.conn
  logs : w'.logs = w.logs.modify k (· ++ l)

theorem Logged.nil (k : Nat) (w : World) : Logged k [] w w :=
  ⟨rfl, rfl, rfl, by rw [show (fun x : List LogE => x ++ []) = id from funext List.append_nil, List.modify_id]⟩

theorem Logged.trans {k : Nat} {l1 l2 : List LogE} {a b c : World} (h1 : Logged k l1 a b) (h2 : Logged k l2 b c) :
    Logged k (l1 ++ l2) a c :=
  ⟨h2.now.trans h1.now, h2.gap.trans h1.gap, h2.conn.trans h1.conn, by
    rw [h2.logs, h1.logs, List.modify_modify_eq]; congr 1; funext x; exact List.append_assoc _ _ _⟩

theorem Logged.nlogs {k : Nat} {l : List LogE} {w w' : World} (h : Logged k l w w') : w'.logs.length = w.logs.length := by
  rw [h.logs, List.length_modify]

theorem Logged.others {k : Nat} {l : List LogE} {w w' : World} (h : Logged k l w w') (j : Nat) (hj : j ≠ k) :
    w'.logs[j]? = w.logs[j]? := by
  rw [h.logs, List.getElem?_modify_ne _ _ (Ne.symm hj)]

theorem Logged.sentOn {k : Nat} {l : List LogE} {w w' : World} (h : Logged k l w w') (hk : k < w.logs.length) :
    w'.sentOn k = w.sentOn k ++ sent l := by
  simp only [World.sentOn, h.logs, List.getElem?_modify_eq, List.getElem?_eq_getElem hk]
  simp [sent_append]

@[simp] theorem put_id (c : ConnSt) (b : Bytes) : (c.put b).id = c.id := by
  unfold ConnSt.put; split <;> rfl

theorem releaseItems_logged : ∀ (n : Nat) (w : World) (c : ConnSt),
    ∃ l, Logged c.id l w (releaseItems n w c).1 ∧ sent l = [] ∧ (releaseItems n w c).2.id = c.id := by
  intro n
  induction n with
  | zero => intro w c; exact ⟨[], Logged.nil _ _, rfl, rfl⟩
  | succ n ih =>
    intro w c
    have next : ∀ c' : ConnSt, c'.id = c.id →
        ∃ l, Logged c.id l w (releaseItems n w c').1 ∧ sent l = [] ∧ (releaseItems n w c').2.id = c.id := by
      intro c' hc; rw [← hc]; exact ih w c'
    simp only [releaseItems]
    split
    · exact ⟨[], Logged.nil _ _, rfl, rfl⟩
    · split
      · exact ⟨[], Logged.nil _ _, rfl, rfl⟩
      · -- the fault table's entry for this item: something is put on the wire and the release goes on, or it ends here
        generalize lookupFault _ _ _ = fault
        cases fault with
        | none => exact next _ (put_id _ _)
        | some f =>
          cases f with
          | nack | garbage _ | late _ => exact next _ (put_id _ _)
          | stall => exact ⟨[], Logged.nil _ _, rfl, rfl⟩
          | close => exact ⟨[.tclose _], ⟨rfl, rfl, rfl, rfl⟩, rfl, rfl⟩

theorem termRx_logged (w : World) (c : ConnSt) (p : Bytes) :
    ∃ l, Logged c.id (.rx p :: l) w (termRx w c p).1 ∧ sent l = [] ∧ (termRx w c p).2.id = c.id := by
  have key : ∀ k w1 c1, Logged c.id [.rx p] w w1 → c1.id = c.id →
      ∃ l, Logged c.id (.rx p :: l) w (releaseItems k w1 c1).1 ∧ sent l = [] ∧ (releaseItems k w1 c1).2.id = c.id := by
    intro k w1 c1 h1 hc
    obtain ⟨l, hl, hs, hid⟩ := releaseItems_logged k w1 c1
    rw [hc] at hl hid
    exact ⟨l, h1.trans hl, hs, hid⟩
  unfold termRx
  simp only
  split
  · exact key _ _ _ ⟨rfl, rfl, rfl, rfl⟩ rfl
  · exact key _ _ _ ⟨rfl, rfl, rfl, rfl⟩ rfl

theorem connWrite_logged {w : World} {c : ConnSt} {p : Bytes} {w' : World} {c' : ConnSt}
    (h : connWrite w c p = some (w', c')) : ∃ l, Logged c.id (.rx p :: l) w w' ∧ sent l = [] ∧ c'.id = c.id := by
  unfold connWrite at h
  split at h
  · cases h
  · simp only [Option.some.injEq] at h
    have := termRx_logged w c p
    rw [h] at this
    exact this

/-- `w'` is reached from `w` by waiting under the deadline `dl`. -/
structure TimeRel (dl : Nat) (w w' : World) : Prop where
  gap : w'.gap = w.gap
  ge : w.now ≤ w'.now
  le : w.now ≤ dl → w'.now ≤ dl
  zero : w.gap = 0 → w'.now = w.now

theorem TimeRel.refl (dl : Nat) (w : World) : TimeRel dl w w := ⟨rfl, Nat.le_refl _, id, fun _ => rfl⟩

theorem TimeRel.trans {dl : Nat} {a b c : World} (h1 : TimeRel dl a b) (h2 : TimeRel dl b c) : TimeRel dl a c :=
  ⟨h2.gap.trans h1.gap, Nat.le_trans h1.ge h2.ge, fun h => h2.le (h1.le h),
   fun h => (h2.zero (h1.gap.trans h)).trans (h1.zero h)⟩

theorem TimeRel.waited (dl : Nat) (w : World) (k : Nat) (h : (w.waited k).now ≤ dl) : TimeRel dl w (w.waited k) :=
  ⟨rfl, waited_now_ge w k, fun _ => h, waited_now0 w k⟩

theorem TimeRel.of_eq (dl : Nat) (w w' : World) (hn : w'.now = w.now) (hg : w'.gap = w.gap) : TimeRel dl w w' :=
  ⟨hg, by omega, fun h => by omega, fun _ => hn⟩

theorem TimeRel.write (dl : Nat) {w : World} {c : ConnSt} {p : Bytes} {w' : World} {c' : ConnSt}
    (h : connWrite w c p = some (w', c')) : TimeRel dl w w' :=
  have ⟨_, hl, _, _⟩ := connWrite_logged h
  TimeRel.of_eq dl w w' hl.now hl.gap

theorem connRead_id (c : ConnSt) : (connRead c).2.2.id = c.id := by
  unfold connRead
  split
  · rfl
  · split <;> rfl

/-- what a step on a connection leaves alone: which connection is live, how many slots exist, whose connection it
is — and the log of every other connection (nothing is sent or received on any slot but the one in use). -/
structure FrameRel (w w' : World) (c c' : ConnSt) : Prop where
  conn : w'.conn = w.conn
  nlogs : w'.logs.length = w.logs.length
  id : c'.id = c.id
  others : ∀ j, j ≠ c.id → w'.logs[j]? = w.logs[j]?

theorem FrameRel.refl (w : World) (c : ConnSt) : FrameRel w w c c := ⟨rfl, rfl, rfl, fun _ _ => rfl⟩

theorem FrameRel.trans {a b e : World} {x y z : ConnSt} (h1 : FrameRel a b x y) (h2 : FrameRel b e y z) : FrameRel a e x z :=
  ⟨h2.conn.trans h1.conn, h2.nlogs.trans h1.nlogs, h2.id.trans h1.id,
   fun j hj => (h2.others j (by rw [h1.id]; exact hj)).trans (h1.others j hj)⟩

theorem FrameRel.write {w : World} {c : ConnSt} {p : Bytes} {w' : World} {c' : ConnSt}
    (h : connWrite w c p = some (w', c')) : FrameRel w w' c c' :=
  have ⟨_, hl, _, hid⟩ := connWrite_logged h
  ⟨hl.conn, hl.nlogs, hid, hl.others⟩

theorem sentOn_of_logs_eq (w w' : World) (k : Nat) (h : w'.logs[k]? = w.logs[k]?) : w'.sentOn k = w.sentOn k := by
  simp [World.sentOn, h]

theorem connWrite_sentOn {w : World} {c : ConnSt} {p : Bytes} {w' : World} {c' : ConnSt}
    (h : connWrite w c p = some (w', c')) (hl : c.id < w.logs.length) : w'.sentOn c.id = w.sentOn c.id ++ [p] := by
  obtain ⟨l, hlog, hs, _⟩ := connWrite_logged h
  rw [hlog.sentOn hl, show sent (.rx p :: l) = p :: sent l from rfl, hs]

theorem dropConn_now (w : World) (c : ConnSt) : (dropConn w c).now = w.now := by
  unfold dropConn; split <;> rfl

theorem dropConn_gap (w : World) (c : ConnSt) : (dropConn w c).gap = w.gap := by
  unfold dropConn; split <;> rfl

theorem dropConn_conn (w : World) (c : ConnSt) : (dropConn w c).conn = none := by
  unfold dropConn; rfl

theorem dropConn_nlogs (w : World) (c : ConnSt) : (dropConn w c).logs.length = w.logs.length := by
  unfold dropConn; split <;> simp

theorem dropConn_others (w : World) (c : ConnSt) (j : Nat) (hj : j ≠ c.id) : (dropConn w c).logs[j]? = w.logs[j]? := by
  unfold dropConn
  split
  · rfl
  · exact log_other _ _ _ _ hj

theorem dropConn_sentOn (w : World) (c : ConnSt) (k : Nat) : (dropConn w c).sentOn k = w.sentOn k := by
  unfold dropConn
  split
  · rfl
  · simp only [World.sentOn, World.log, List.getElem?_modify]
    by_cases hk : c.id = k <;> cases w.logs[k]? <;> simp [hk, sent]

/-- the world a read under the deadline `dl` leaves (a time-out leaves it as it was) … -/
def readW (dl : Nat) (w : World) (c : ConnSt) : World :=
  match readBy dl w c with
  | .pkt _ w' _ | .eof w' _ => w'
  | .hang _ => w

/-- … and the connection record. -/
def readC (dl : Nat) (w : World) (c : ConnSt) : ConnSt :=
  match readBy dl w c with
  | .pkt _ _ c' | .eof _ c' | .hang c' => c'

/-- all a read under a deadline does to the world: the client sat out `k` pauses of the terminal, not beyond the
deadline (`k = 0`: a time-out, or nothing to wait for). -/
theorem readBy_spec (dl : Nat) (w : World) (c : ConnSt) :
    (∃ k, readW dl w c = w.waited k ∧ (w.now ≤ dl → (w.waited k).now ≤ dl)) ∧ (readC dl w c).id = c.id := by
  unfold readW readC readBy
  have hid := connRead_id c
  generalize connRead c = q at hid
  obtain ⟨r, k, c2⟩ := q
  have timed : ∀ (o : RdBy), (if dl < (w.waited k).now then RdBy.hang c2 else o) = .hang c2 ∨
      (¬ dl < (w.waited k).now ∧ (if dl < (w.waited k).now then RdBy.hang c2 else o) = o) := fun o => by
    by_cases h : dl < (w.waited k).now
    · exact .inl (if_pos h)
    · exact .inr ⟨h, if_neg h⟩
  cases r with
  | hang => exact ⟨⟨0, rfl, id⟩, hid⟩
  | eof =>
    rcases timed (.eof (w.waited k) c2) with h | ⟨hk, h⟩ <;> simp only [h]
    · exact ⟨⟨0, rfl, id⟩, hid⟩
    · exact ⟨⟨k, rfl, fun _ => Nat.le_of_not_lt hk⟩, hid⟩
  | pkt p =>
    rcases timed (.pkt p (w.waited k) c2) with h | ⟨hk, h⟩ <;> simp only [h]
    · exact ⟨⟨0, rfl, id⟩, hid⟩
    · exact ⟨⟨k, rfl, fun _ => Nat.le_of_not_lt hk⟩, hid⟩

theorem readBy_time (dl : Nat) (w : World) (c : ConnSt) : TimeRel dl w (readW dl w c) := by
  obtain ⟨⟨k, hk, hle⟩, _⟩ := readBy_spec dl w c
  rw [hk]; exact ⟨rfl, waited_now_ge w k, hle, waited_now0 w k⟩

theorem readBy_frame (dl : Nat) (w : World) (c : ConnSt) : FrameRel w (readW dl w c) c (readC dl w c) := by
  obtain ⟨⟨k, hk, _⟩, hid⟩ := readBy_spec dl w c
  rw [hk]; exact ⟨rfl, rfl, hid, fun _ _ => rfl⟩

theorem readBy_sentOn (dl : Nat) (w : World) (c : ConnSt) (k : Nat) : (readW dl w c).sentOn k = w.sentOn k := by
  obtain ⟨⟨_, hk, _⟩, _⟩ := readBy_spec dl w c
  rw [hk]; rfl

/-- a `looping` call reads once; then it either ends the stream (with a time-out, if that is how the read ended, or
else an error item) having written nothing, or it acknowledges the packet it read and yields it. -/
theorem seqNext_looping_cases (d : SeqDesc) (dl : Nat) (w : World) (c : ConnSt) :
    (∃ o, ((o = .hang ∧ ∃ c', readBy dl w c = .hang c') ∨ o = .item .err) ∧
      seqNext d dl w c .looping = (o, readW dl w c, readC dl w c, .done)) ∨
    (∃ i v w' c', connWrite (readW dl w c) (readC dl w c) ackBytes = some (w', c') ∧
      seqNext d dl w c .looping =
        (.item (.ok i v), w', c', if d.once = true ∨ isFinalOf d.enum d.finals i = true then .done else .looping)) := by
  simp only [seqNext, readW, readC]
  cases readBy dl w c with
  | hang c' => exact .inl ⟨_, .inl ⟨rfl, c', rfl⟩, rfl⟩
  | eof w' c' => exact .inl ⟨_, .inr rfl, rfl⟩
  | pkt p w' c' =>
    simp only
    cases parseEnum d.enum p with
    | error er => exact .inl ⟨_, .inr rfl, rfl⟩
    | ok iv =>
      simp only
      cases connWrite w' c' ackBytes with
      | none => exact .inl ⟨_, .inr rfl, rfl⟩
      | some wc => exact .inr ⟨iv.1, iv.2, wc.1, wc.2, rfl, rfl⟩

/-- a first call writes the command (or fails at once) and reads once for the acknowledgement; it ends there with a
time-out or an error item, or goes on as a `looping` call. -/
theorem seqNext_start_cases (d : SeqDesc) (dl : Nat) (w : World) (c : ConnSt) :
    seqNext d dl w c .start = (.item .err, w, c, .done) ∨
    ∃ w1 c1, connWrite w c d.cmd = some (w1, c1) ∧
      ((∃ o, (o = .hang ∨ o = .item .err) ∧ seqNext d dl w c .start = (o, readW dl w1 c1, readC dl w1 c1, .done)) ∨
       seqNext d dl w c .start = seqNext d dl (readW dl w1 c1) (readC dl w1 c1) .looping) := by
  simp only [seqNext, readW, readC]
  cases connWrite w c d.cmd with
  | none => exact .inl rfl
  | some wc =>
    obtain ⟨w1, c1⟩ := wc
    refine .inr ⟨w1, c1, rfl, ?_⟩
    simp only
    cases readBy dl w1 c1 with
    | hang c2 => exact .inl ⟨_, .inl rfl, rfl⟩
    | eof w2 c2 => exact .inl ⟨_, .inr rfl, rfl⟩
    | pkt p w2 c2 =>
      simp only
      cases parseEnum Generated.io_Ack p with
      | error er => exact .inl ⟨_, .inr rfl, rfl⟩
      | ok a => exact .inr rfl

theorem seqNext_state (d : SeqDesc) (dl : Nat) (w : World) (c : ConnSt) (st : SeqSt) :
    match (seqNext d dl w c st).1 with
    | .item (.ok i _) =>
      (seqNext d dl w c st).2.2.2 = if d.once = true ∨ isFinalOf d.enum d.finals i = true then .done else .looping
    | _ => (seqNext d dl w c st).2.2.2 = .done := by
  cases st with
  | done => rfl
  | looping => rcases seqNext_looping_cases d dl w c with ⟨_, ⟨rfl, _⟩ | rfl, e⟩ | ⟨_, _, _, _, _, e⟩ <;> rw [e]
  | start =>
    rcases seqNext_start_cases d dl w c with e | ⟨w1, c1, _, ⟨_, rfl | rfl, e⟩ | e⟩ <;> rw [e]
    -- the last case: the first call goes on as a `looping` call
    rcases seqNext_looping_cases d dl (readW dl w1 c1) (readC dl w1 c1) with ⟨_, ⟨rfl, _⟩ | rfl, e⟩ | ⟨_, _, _, _, _, e⟩ <;> rw [e]

theorem never_back_to_start (d : SeqDesc) (dl : Nat) (w : World) (c : ConnSt) (st : SeqSt) :
    (seqNext d dl w c st).2.2.2 ≠ .start := by
  have h := seqNext_state d dl w c st
  split at h <;> rw [h]
  · split <;> nofun
  · nofun

/-- `R`, a relation between (world, connection) before and after, is reflexive, transitive and holds across the
primitive steps on a connection: a write, and a read under the deadline `dl`. -/
structure KeptBySteps (dl : Nat) (R : World → ConnSt → World → ConnSt → Prop) : Prop where
  refl : ∀ w c, R w c w c
  trans : ∀ {a x b y e z}, R a x b y → R b y e z → R a x e z
  write : ∀ {w c p w' c'}, connWrite w c p = some (w', c') → R w c w' c'
  read : ∀ w c, R w c (readW dl w c) (readC dl w c)

theorem seqNext_lift {dl : Nat} {R : World → ConnSt → World → ConnSt → Prop} (h : KeptBySteps dl R) (d : SeqDesc)
    (w : World) (c : ConnSt) (st : SeqSt) : R w c (seqNext d dl w c st).2.1 (seqNext d dl w c st).2.2.1 := by
  have looping : ∀ w c, R w c (seqNext d dl w c .looping).2.1 (seqNext d dl w c .looping).2.2.1 := by
    intro w c
    rcases seqNext_looping_cases d dl w c with ⟨_, _, e⟩ | ⟨_, _, _, _, hw, e⟩ <;> rw [e]
    · exact h.read w c
    · exact h.trans (h.read w c) (h.write hw)
  cases st with
  | done => exact h.refl w c
  | looping => exact looping w c
  | start =>
    rcases seqNext_start_cases d dl w c with e | ⟨w1, c1, hw, ⟨_, _, e⟩ | e⟩ <;> rw [e]
    · exact h.refl w c
    · exact h.trans (h.write hw) (h.read w1 c1)
    · exact h.trans (h.trans (h.write hw) (h.read w1 c1)) (looping _ _)

theorem seqNext_time (d : SeqDesc) (dl : Nat) (w : World) (c : ConnSt) (st : SeqSt) :
    TimeRel dl w (seqNext d dl w c st).2.1 :=
  seqNext_lift (R := fun w _ w' _ => TimeRel dl w w')
    ⟨fun w _ => TimeRel.refl dl w, TimeRel.trans, TimeRel.write dl, readBy_time dl⟩ d w c st

theorem seqNext_gap (d : SeqDesc) (dl : Nat) (w : World) (c : ConnSt) (st : SeqSt) :
    (seqNext d dl w c st).2.1.gap = w.gap := (seqNext_time d dl w c st).gap

theorem seqNext_frame (d : SeqDesc) (dl : Nat) (w : World) (c : ConnSt) (st : SeqSt) :
    FrameRel w (seqNext d dl w c st).2.1 c (seqNext d dl w c st).2.2.1 :=
  seqNext_lift (dl := dl) (R := fun w c w' c' => FrameRel w w' c c')
    ⟨FrameRel.refl, FrameRel.trans, FrameRel.write, readBy_frame dl⟩ d w c st

def NextOut.isOk : NextOut → Bool
  | .item (.ok _ _) => true
  | _ => false

/-- **what one `stream.next()` writes**: in the first call the command and, iff it yields a packet, one
acknowledgement behind it; in later calls one acknowledgement iff it yields a packet; after the end nothing. An
error item or a time-out never comes with an acknowledgement. -/
theorem seqNext_writes (d : SeqDesc) (dl : Nat) (w : World) (c : ConnSt) (st : SeqSt) (hl : c.id < w.logs.length) :
    ∃ S, (seqNext d dl w c st).2.1.sentOn c.id = w.sentOn c.id ++ S ∧
      (match st with
       | .start => ((seqNext d dl w c st).1.isOk = true ∧ S = [d.cmd, ackBytes]) ∨
                   ((seqNext d dl w c st).1.isOk = false ∧ (S = [] ∨ S = [d.cmd]))
       | .looping => ((seqNext d dl w c st).1.isOk = true ∧ S = [ackBytes]) ∨
                     ((seqNext d dl w c st).1.isOk = false ∧ S = [])
       | .done => S = []) := by
  have looping : ∀ w c, c.id < w.logs.length →
      ((seqNext d dl w c .looping).1.isOk = true ∧ (seqNext d dl w c .looping).2.1.sentOn c.id = w.sentOn c.id ++ [ackBytes]) ∨
      ((seqNext d dl w c .looping).1.isOk = false ∧ (seqNext d dl w c .looping).2.1.sentOn c.id = w.sentOn c.id) := by
    intro w c hl
    have hf := readBy_frame dl w c
    rcases seqNext_looping_cases d dl w c with ⟨_, ho, e⟩ | ⟨_, _, _, _, hw, e⟩ <;> rw [e]
    · exact .inr ⟨by rcases ho with ⟨rfl, _⟩ | rfl <;> rfl, readBy_sentOn dl w c c.id⟩
    · have := connWrite_sentOn hw (by rw [hf.id, hf.nlogs]; exact hl)
      rw [hf.id, readBy_sentOn] at this
      exact .inl ⟨rfl, this⟩
  cases st with
  | done => exact ⟨[], (List.append_nil _).symm, rfl⟩
  | looping =>
    rcases looping w c hl with ⟨h1, h2⟩ | ⟨h1, h2⟩
    · exact ⟨[ackBytes], h2, .inl ⟨h1, rfl⟩⟩
    · exact ⟨[], by simpa using h2, .inr ⟨h1, rfl⟩⟩
  | start =>
    rcases seqNext_start_cases d dl w c with e | ⟨w1, c1, hw, ⟨_, ho, e⟩ | e⟩ <;> rw [e]
    · exact ⟨[], by simp, .inr ⟨rfl, .inl rfl⟩⟩
    · exact ⟨[d.cmd], by rw [readBy_sentOn]; exact connWrite_sentOn hw hl,
        .inr ⟨by rcases ho with rfl | rfl <;> rfl, .inr rfl⟩⟩
    · -- the command went out on `c`; the rest is a `looping` call on the connection as the read left it
      have hf := (FrameRel.write hw).trans (readBy_frame dl w1 c1)
      have hs : (readW dl w1 c1).sentOn c.id = w.sentOn c.id ++ [d.cmd] := by
        rw [readBy_sentOn]; exact connWrite_sentOn hw hl
      have hstep := looping (readW dl w1 c1) (readC dl w1 c1) (by rw [hf.id, hf.nlogs]; exact hl)
      rw [hf.id, hs] at hstep
      rcases hstep with ⟨h1, h2⟩ | ⟨h1, h2⟩
      · exact ⟨[d.cmd, ackBytes], by rw [h2]; simp, .inl ⟨h1, rfl⟩⟩
      · exact ⟨[d.cmd], h2, .inr ⟨h1, .inr rfl⟩⟩

end Zvt
