/-
  C02 — decoding is total: arbitrary bytes give a value or an error, never a panic.

  In the model every partial Rust operation on a decode path (index, slice, `usize` subtraction,
  `unwrap`, unbounded loop) is an explicit `.panic` / `.outOfFuel` outcome, so these theorems say that
  the guards in the code make each of them unreachable — for every schema and every byte string.
-/
import ZvtVerif.Proofs.SizeBound
import ZvtVerif.Generated
import ZvtVerif.Transport
import ZvtVerif.Properties.C17
import ZvtVerif.Properties.C15
namespace Zvt.C02

def structTyped (s : StructDef) : Bool := fieldsTyped s.fields

theorem len_de_no_panic (L : LenKind) (b : Bytes) (hL : ∀ s, L ≠ .unknown s) : (L.de b).isPanic = false :=
  (lenDe_np L hL b).1

/-- totality and size bound of a packet decoder in one statement; `decode_total` and `decode_size_bounded`
are its two readings. -/
theorem decodeCmd_bd (s : StructDef) (h : structTyped s = true) (b : Bytes) :
    Bd Val.size (1 + 3 * fieldsWeight s.fields) (decodeCmd s b) b := by
  unfold decodeCmd
  cases s.ctrl with
  | none => exact Ty.de_bd (.struct s.fields) .empty .dflt none b (by simp [Ty.typed, LenKind.known]; exact h)
  | some c =>
    exact deserTagged_bd _ _ tagDecBE (fun x => intDecode_np true 2 x) .adpu (by intro s h; cases h) _
      (decStruct_bd s.fields h) (some (ctrlTag c)) b

/-- **Every packet decoder is total** — for every struct definition whose (length, encoding, type) triples
are ones the builder implements, and EVERY byte string: the result is a value or a `ZVTError`, never a
panic, never fuel exhaustion (the tag loop, the `Vec` loop and the date-time loop all terminate), and the
remainder handed back is never longer than the input. -/
theorem decode_total (s : StructDef) (h : structTyped s = true) (b : Bytes) : NP (decodeCmd s b) b :=
  (decodeCmd_bd s h b).np

/-- the schema constant of a packet type (depends on the type only, not on the input). -/
def structWeight (s : StructDef) : Nat := 1 + 3 * fieldsWeight s.fields

/-- **Decoding never builds more than a constant multiple of the input** — for every struct definition as
above and EVERY byte string: if a value comes back, its size (nodes + characters + payload bytes, `Val.size`)
is at most `structWeight s × (1 + bytes consumed)`. In particular a `Vec` field cannot grow without
consuming input (the progress guard of defect D8), nested containers cannot multiply their content, and
text decoders produce at most two characters per byte. -/
theorem decode_size_bounded (s : StructDef) (h : structTyped s = true) (b : Bytes) (v : Val) (r : Bytes)
    (hd : decodeCmd s b = .ok (v, r)) : r.length ≤ b.length ∧ v.size ≤ structWeight s * (1 + (b.length - r.length)) :=
  (decodeCmd_bd s h b).sb v r hd

theorem field_size_bounded (t : Ty) (L : LenKind) (E : Enc) (tag : Option Nat) (b : Bytes) (h : Ty.typed t L E = true) :
    SB (Ty.weight t) (Ty.de t L E tag b) b := Ty.de_sb t L E tag b h

theorem field_decode_total (t : Ty) (L : LenKind) (E : Enc) (tag : Option Nat) (b : Bytes) (h : Ty.typed t L E = true) :
    NP (Ty.de t L E tag b) b := Ty.de_np t L E tag b h

def errPanics {α : Type} (r : Res α) : Bool :=
  match r with
  | .error er => er.isPanic
  | .ok _ => false

theorem parseVariants_total (c0 c1 : Nat) (b : Bytes) (vs : List (String × StructDef)) (i : Nat)
    (h : vs.all (fun v => structTyped v.2) = true) : errPanics (parseVariants vs i c0 c1 b) = false := by
  rcases C15.variants_split vs c0 c1 with hno | ⟨pre, n, s, post, rfl, hpre, hs⟩
  · rw [C15.parseVariants_reject vs i c0 c1 b hno]; rfl
  · rw [C15.parseVariants_complete pre n s post i c0 c1 b hpre hs]
    have := decode_total s (List.all_eq_true.mp h (n, s) (by simp)) b
    cases hd : decodeCmd s b with
    | error er => exact NP_err_of this hd
    | ok p => rfl

theorem parse_total (e : EnumDef) (h : e.variants.all (fun v => structTyped v.2) = true) (b : Bytes) :
    errPanics (parseEnum e b) = false := by
  unfold parseEnum
  match b with
  | [] | [_] => rfl
  | c0 :: c1 :: rest => exact parseVariants_total _ _ _ e.variants 0 h

/-- all 55 shipped packet / container types and all 17 reply enums satisfy the hypothesis (re-checked by
the kernel against the table translated from the source on this run). -/
theorem shipped_typed : Generated.shipped.all structTyped = true := by decide +kernel

theorem shipped_enums_typed : Generated.enums.all (fun e => e.variants.all (fun v => structTyped v.2)) = true := by decide +kernel

/-- the schema constants of the shipped types (largest: `StatusInformation` with its nested containers; the
bound is deliberately generous — a factor 3 per nesting level — the measured allocation stays below 64 × input). -/
theorem shipped_weight_le : Generated.shipped.all (fun s => decide (structWeight s ≤ 2677)) = true := by decide +kernel

/-- Corollary for the code as shipped: every decoded value is at most `2677 × (1 + bytes consumed)` large. -/
theorem shipped_decode_size (s : StructDef) (hs : s ∈ Generated.shipped) (b : Bytes) (v : Val) (r : Bytes)
    (hd : decodeCmd s b = .ok (v, r)) : v.size ≤ 2677 * (1 + (b.length - r.length)) := by
  have h1 := decode_size_bounded s (List.all_eq_true.mp shipped_typed s hs) b v r hd
  have h2 : structWeight s ≤ 2677 := by simpa using List.all_eq_true.mp shipped_weight_le s hs
  exact Nat.le_trans h1.2 (Nat.mul_le_mul_right _ h2)

/-- Corollary for the code as shipped: no decoder, no reply parser can panic or loop on any input. -/
theorem shipped_decode_total (s : StructDef) (hs : s ∈ Generated.shipped) (b : Bytes) : NP (decodeCmd s b) b :=
  decode_total s (List.all_eq_true.mp shipped_typed s hs) b

/-- A number that does not fit its field is an error, not a wrapped value (so debug and release builds
decode identically): the BCD decoder returns the exact digit value iff it fits, `IncompleteData` otherwise. -/
theorem bcd_overflow_is_error (w : Nat) (ds : Bytes) :
    bcdDec w ds = if bcdValFrom 0 ds < 256 ^ w then .ok (bcdValFrom 0 ds, []) else .error .incomplete :=
  C17.bcd_overflow_is_error w ds

/-- the transport reads frames with total functions only (`readFrame` has no failure but EOF). -/
theorem readFrame_total (s : Bytes) : (∃ p r, readFrame s = .packet p r) ∨ (∃ n, readFrame s = .eof n) := by
  cases h : readFrame s with
  | packet p r => left; exact ⟨p, r, rfl⟩
  | eof n => right; exact ⟨n, rfl⟩

/-- the repaired defects as regression theorems: a truncated `82` length prefix and the month arithmetic. -/
example : LenKind.tlv.de [0x82, 0x01] = .error .incomplete := by decide
example : (dtDecode [0x1f, 0x0e, 0x04, 0x20, 0x23, 0x10, 0x05, 0x1f, 0x0f, 0x03, 0x22, 0x56, 0x55]).isOkVal (.dt 20231005 225655) [] = true := by
  decide +kernel
example : (dtDecode [0x1f, 0x0e, 0x04, 0x20, 0x23, 0x13, 0x05, 0x1f, 0x0f, 0x03, 0x22, 0x56, 0x55]).isPanic = false := by decide +kernel

end Zvt.C02
