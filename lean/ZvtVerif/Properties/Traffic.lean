/-
  Traffic.lean — property theorems about EVERYTHING the client puts on the wire, on every connection, for every
  terminal (script, faults, pace) — consumed by C07 (commit / cancel act on exactly that token's receipt), C08 (the one
  partial reversal carries the unused amount), C09 (nothing but the handshake, the command and acknowledgements), C19
  (no end-of-day and no pending query while another token is open; the clean-up only when idle).

  The predicate `Wrote P w w'` (Proofs/ClientWrites.lean): between the worlds `w` and `w'` the per-connection
  traffic only grew, and every packet added on any connection satisfies `P`.
-/
import ZvtVerif.Proofs.ClientWrites
import ZvtVerif.Proofs.ClientFrame
import ZvtVerif.Proofs.BytesLemmas
import ZvtVerif.Properties.C07
import ZvtVerif.Properties.C08
namespace Zvt.Traffic

/-! ### control fields of the request packets -/

/-- the first two bytes of an encoded command are its class and instruction — if it could be encoded at all. -/
theorem encodeCmd_head (s : StructDef) (c : Nat × Nat) (v : Val) (b : Bytes) (hc : s.ctrl = some c)
    (h : encodeCmd s v = .ok b) : b.take 2 = tagEncBE (ctrlTag c) := by
  unfold encodeCmd at h
  rw [hc] at h
  cases v with
  | struct vs =>
    simp only [serTagged] at h
    split at h
    · cases h
    · split at h
      · cases h
      · next p _ l _ =>
        simp only [Except.ok.injEq] at h
        subst h
        simp only [tagPrefix, List.append_assoc]
        have hl : (tagEncBE (ctrlTag c)).length = 2 := by simp [tagEncBE, beBytes_length]
        rw [List.take_append_of_le_length (by omega), List.take_of_length_le (by omega)]
  | _ => cases h

/-- a request is empty (the encoder refused the value) or starts with the control field of its packet type. -/
theorem encodeReq_head (name : String) (v : Val) (c : Nat × Nat) (hc : (findStructG name).ctrl = some c) :
    encodeReq name v = [] ∨ (encodeReq name v).take 2 = tagEncBE (ctrlTag c) := by
  unfold encodeReq
  cases h : encodeCmd (findStructG name) v with
  | error e => left; rfl
  | ok b => right; exact encodeCmd_head _ c v b hc h

/-- `p` is an end-of-day request (06 50). -/
def IsEndOfDay (p : Bytes) : Prop := p.take 2 = [0x06, 0x50]

/-- a request built from a packet type whose control field is not 06 50 is no end-of-day request. The packet types are
those `C08.client_structs` finds under the client's names in the table translated on this run. -/
theorem req_not_eod {name : String} {v : Val} {s : StructDef} {c : Nat × Nat} (hs : findStructG name = s)
    (hc : s.ctrl = some c) (hne : tagEncBE (ctrlTag c) ≠ [0x06, 0x50]) : ¬ IsEndOfDay (encodeReq name v) := by
  intro he
  unfold IsEndOfDay at he
  rcases encodeReq_head name v c (hs ▸ hc) with h | h
  · rw [h] at he; cases he
  · rw [h] at he; exact hne he

theorem commitCmd_not_eod (cfg : Cfg) (t : List Nat) (r f : Nat) : ¬ IsEndOfDay (commitCmd cfg t r f) :=
  req_not_eod C08.client_structs.1 rfl (by decide)
theorem reversalCmd_not_eod (cfg : Cfg) (r : Nat) : ¬ IsEndOfDay (reversalCmd cfg r) :=
  req_not_eod C08.client_structs.2.1 rfl (by decide)
theorem reservationCmd_not_eod (cfg : Cfg) (t : List Nat) : ¬ IsEndOfDay (reservationCmd cfg t) :=
  req_not_eod C08.client_structs.2.2.1 rfl (by decide)
theorem registrationCmd_not_eod (cfg : Cfg) : ¬ IsEndOfDay (registrationCmd cfg) :=
  req_not_eod C08.client_structs.2.2.2.1 rfl (by decide)
theorem sysInfoCmd_not_eod : ¬ IsEndOfDay sysInfoCmd :=
  req_not_eod C08.client_structs.2.2.2.2.1 rfl (by decide)
theorem readCardCmd_not_eod (cfg : Cfg) : ¬ IsEndOfDay (readCardCmd cfg) :=
  req_not_eod C08.client_structs.2.2.2.2.2 rfl (by decide)
theorem ack_not_eod : ¬ IsEndOfDay ackBytes := by unfold IsEndOfDay ackBytes; decide

theorem handshake_not_eod (cfg : Cfg) (p : Bytes) (h : p ∈ handshakePackets cfg) : ¬ IsEndOfDay p := by
  simp only [handshakePackets, List.mem_cons, List.not_mem_nil, or_false] at h
  rcases h with h | h | h | h
  · rw [h]; exact registrationCmd_not_eod cfg
  · rw [h]; exact ack_not_eod
  · rw [h]; exact sysInfoCmd_not_eod
  · rw [h]; exact ack_not_eod

/-! ### C09 / C05 at the client: one exchange -/

/-- **Every exchange of the client, with all its retries and reconnects**, for every sequence, caller loop, terminal
script, fault table and pace: on no connection — old, live, or opened meanwhile — is anything written but the command of
this exchange, acknowledgements, and the registration / identity request of a handshake. -/
theorem exchange_writes {σ ρ : Type} (cfg : Cfg) (seqName : String) (cmd : Bytes) (timeout : Nat)
    (step : σ → Item → Step σ ρ) (w : World) (s : σ) (h : ConnOK w) :
    WroteOnly (fun p => p = cmd ∨ p = ackBytes ∨ p ∈ handshakePackets cfg) w (runOp cfg seqName cmd timeout step w s).2 :=
  (wrote_runOp cfg seqName cmd timeout step w s h).only

/-! ### C07 / C08: begin, commit, cancel -/

/-- **begin** puts on the wire (besides acknowledgements and handshakes) only the reservation request for its own token
with the configured amount and currency; a refused begin (C07 guards) writes nothing at all. -/
theorem begin_writes (cfg : Cfg) (cl : Client) (t : List Nat) (w : World) (h : ConnOK w) :
    WroteOnly (fun p => p = reservationCmd cfg t ∨ p = ackBytes ∨ p ∈ handshakePackets cfg) w (beginTx cfg cl t w).2.2 :=
  (wrote_beginTx cfg cl t w h).only

/-- what `wrote_commitTx` / `wrote_cancelTx` say once the receipt `r` recorded for the token is known: the command `cmd r`
and the clean-up commands — and no clean-up command while another token stays open. -/
theorem own_receipt_writes {cfg : Cfg} {cmd : Nat → Bytes} {txs rest : List (List Nat × Nat)} {t : List Nat} {r : Nat} {w w' : World}
    (hw : Wrote (Allowed cfg fun p => (∃ r, txs.find? (·.1 = t) = some (t, r) ∧ p = cmd r) ∨ (rest = [] ∧ CleanupCmd cfg p)) w w')
    (hf : txs.find? (·.1 = t) = some (t, r)) :
    WroteOnly (fun p => p = cmd r ∨ CleanupCmd cfg p ∨ p = ackBytes ∨ p ∈ handshakePackets cfg) w w' ∧
    (rest ≠ [] → WroteOnly (fun p => p = cmd r ∨ p = ackBytes ∨ p ∈ handshakePackets cfg) w w') := by
  have own : ∀ {p}, (∃ r, txs.find? (·.1 = t) = some (t, r) ∧ p = cmd r) → p = cmd r := fun ⟨r', hr', hp⟩ => by
    rw [hf] at hr'; cases hr'; exact hp
  refine ⟨hw.only.mono ?_, fun hopen => hw.only.mono ?_⟩
  · rintro p ((ho | ⟨_, hc⟩) | hp)
    · exact Or.inl (own ho)
    · exact Or.inr (Or.inl hc)
    · exact Or.inr (Or.inr hp)
  · rintro p ((ho | ⟨he, _⟩) | hp)
    · exact Or.inl (own ho)
    · exact absurd he hopen
    · exact Or.inr hp

/-- **commit while another token stays open**: the ONLY command on the wire is the partial reversal carrying the receipt
number recorded for this token and the unused amount — no pending query, no reversal, no end-of-day. -/
theorem commit_writes_while_open (cfg : Cfg) (cl : Client) (t : List Nat) (f : Nat) (w : World) (h : ConnOK w)
    (r : Nat) (hf : cl.txs.find? (·.1 = t) = some (t, r)) (hopen : cl.txs.filter (·.1 ≠ t) ≠ []) :
    WroteOnly (fun p => p = commitCmd cfg t r f ∨ p = ackBytes ∨ p ∈ handshakePackets cfg) w (commitTx cfg cl t f w).2.2 :=
  (own_receipt_writes (cmd := fun r => commitCmd cfg t r f) (wrote_commitTx cfg cl t f w h) hf).2 hopen

/-- **cancel while another token stays open**: the only command is the reversal of this token's receipt. -/
theorem cancel_writes_while_open (cfg : Cfg) (cl : Client) (t : List Nat) (w : World) (h : ConnOK w)
    (r : Nat) (hf : cl.txs.find? (·.1 = t) = some (t, r)) (hopen : cl.txs.filter (·.1 ≠ t) ≠ []) :
    WroteOnly (fun p => p = reversalCmd cfg r ∨ p = ackBytes ∨ p ∈ handshakePackets cfg) w (cancelTx cfg cl t w).2.2 :=
  (own_receipt_writes (cmd := reversalCmd cfg) (wrote_cancelTx cfg cl t w h) hf).2 hopen

/-- **commit / cancel of the last open token**: own command first kind, then only clean-up commands (pending query,
reversal of a reported receipt, end-of-day). -/
theorem commit_writes (cfg : Cfg) (cl : Client) (t : List Nat) (f : Nat) (w : World) (h : ConnOK w)
    (r : Nat) (hf : cl.txs.find? (·.1 = t) = some (t, r)) :
    WroteOnly (fun p => p = commitCmd cfg t r f ∨ CleanupCmd cfg p ∨ p = ackBytes ∨ p ∈ handshakePackets cfg) w
      (commitTx cfg cl t f w).2.2 :=
  (own_receipt_writes (cmd := fun r => commitCmd cfg t r f) (wrote_commitTx cfg cl t f w h) hf).1

theorem cancel_writes (cfg : Cfg) (cl : Client) (t : List Nat) (w : World) (h : ConnOK w)
    (r : Nat) (hf : cl.txs.find? (·.1 = t) = some (t, r)) :
    WroteOnly (fun p => p = reversalCmd cfg r ∨ CleanupCmd cfg p ∨ p = ackBytes ∨ p ∈ handshakePackets cfg) w
      (cancelTx cfg cl t w).2.2 :=
  (own_receipt_writes (cmd := reversalCmd cfg) (wrote_cancelTx cfg cl t w h) hf).1

/-- a commit / cancel for a token that is not open writes nothing (with `C07.*_unknown_no_traffic`: the world is unchanged). -/
theorem unknown_token_writes_nothing (cfg : Cfg) (cl : Client) (t : List Nat) (f : Nat) (w : World)
    (hf : cl.txs.find? (·.1 = t) = none) :
    (commitTx cfg cl t f w).2.2 = w ∧ (cancelTx cfg cl t w).2.2 = w := by
  rw [C07.commit_unknown_no_traffic cfg cl t f w hf, C07.cancel_unknown_no_traffic cfg cl t w hf]
  exact ⟨rfl, rfl⟩

/-! ### C19: end-of-day never over open transactions — on the wire, over whole call histories -/

/-- `ClientCall` without `configure`, which runs an end-of-day itself. -/
inductive TxCall where
  | begin (token : List Nat)
  | commit (token : List Nat) (final : Nat)
  | cancel (token : List Nat)
  | readCard

def runTxCall (cfg : Cfg) (s : Client × World) : TxCall → Client × World
  | .begin t => ((beginTx cfg s.1 t s.2).2.1, (beginTx cfg s.1 t s.2).2.2)
  | .commit t f => ((commitTx cfg s.1 t f s.2).2.1, (commitTx cfg s.1 t f s.2).2.2)
  | .cancel t => ((cancelTx cfg s.1 t s.2).2.1, (cancelTx cfg s.1 t s.2).2.2)
  | .readCard => (s.1, (readCard cfg s.2).2)

/-- **No end-of-day request while a token stays open** — one call: if after the call's own token is closed another token
remains open (or the call is begin / read_card), no packet with control field 06 50 is written, on any connection,
whatever the terminal does. -/
theorem call_no_end_of_day (cfg : Cfg) (s : Client × World) (c : TxCall) (h : ConnOK s.2)
    (hopen : match c with
      | .commit t _ => s.1.txs.filter (·.1 ≠ t) ≠ []
      | .cancel t => s.1.txs.filter (·.1 ≠ t) ≠ []
      | _ => True) :
    WroteOnly (fun p => ¬ IsEndOfDay p) s.2 (runTxCall cfg s c).2 := by
  -- each call is a path of exchanges whose commands are no end-of-day request (`hopen` rules the clean-up out)
  have lift : ∀ {T n w'}, Exchanges cfg T (fun p => ¬ IsEndOfDay p) n s.2 w' → WroteOnly (fun p => ¬ IsEndOfDay p) s.2 w' :=
    fun he => (he.wrote h).only.mono fun p hp =>
      hp.elim id fun hp => hp.elim (· ▸ ack_not_eod) (handshake_not_eod cfg p)
  cases c with
  | begin t => exact lift (exchanges_beginTx (reservationCmd_not_eod cfg t) (eta3 _))
  | readCard => exact lift (exchanges_readCard (readCardCmd_not_eod cfg) (Prod.eta _).symm)
  | commit t f =>
    exact lift (exchanges_commitTx (fun r _ => commitCmd_not_eod cfg t r f) (fun he => absurd he hopen) (eta3 _))
  | cancel t =>
    exact lift (exchanges_cancelTx (fun r _ => reversalCmd_not_eod cfg r) (fun he => absurd he hopen) (eta3 _))

theorem connOK_call (cfg : Cfg) (s : Client × World) (c : TxCall) (h : ConnOK s.2) : ConnOK (runTxCall cfg s c).2 := by
  cases c with
  | begin t => exact (wrote_beginTx cfg s.1 t s.2 h).ok
  | commit t f => exact (wrote_commitTx cfg s.1 t f s.2 h).ok
  | cancel t => exact (wrote_cancelTx cfg s.1 t s.2 h).ok
  | readCard => exact (wrote_readCard cfg s.2 h).ok

/-- a history in which every commit / cancel leaves another token open (evaluated along the run). -/
def NeverIdle (cfg : Cfg) : Client × World → List TxCall → Prop
  | _, [] => True
  | s, c :: cs =>
    (match c with
      | .commit t _ => s.1.txs.filter (·.1 ≠ t) ≠ []
      | .cancel t => s.1.txs.filter (·.1 ≠ t) ≠ []
      | _ => True) ∧ NeverIdle cfg (runTxCall cfg s c) cs

/-- **C19 over whole histories**: along any history of begin / commit / cancel / read_card calls in which no commit or
cancel closes the last open token, no end-of-day request is ever written — on any connection, for any terminal. -/
theorem history_no_end_of_day (cfg : Cfg) : ∀ (calls : List TxCall) (s : Client × World), ConnOK s.2 →
    NeverIdle cfg s calls → WroteOnly (fun p => ¬ IsEndOfDay p) s.2 (calls.foldl (runTxCall cfg) s).2 := by
  intro calls
  induction calls with
  | nil => intro s _ _; exact WroteOnly.refl _ _
  | cons c cs ih =>
    intro s h hn
    simp only [List.foldl_cons]
    exact (call_no_end_of_day cfg s c h hn.1).trans (ih _ (connOK_call cfg s c h) hn.2)

/-! ### the client's whole vocabulary, over arbitrary call histories -/

/-- everything the `Feig` client can ever put on the wire. -/
def ClientVocab (cfg : Cfg) (p : Bytes) : Prop :=
  p = ackBytes ∨ p ∈ handshakePackets cfg ∨ p = sysInfoCmd ∨ p = setTidCmd cfg ∨ p = initCmd cfg ∨ CleanupCmd cfg p ∨
  p = readCardCmd cfg ∨ (∃ t, p = reservationCmd cfg t) ∨ (∃ t r f, p = commitCmd cfg t r f)

theorem call_writes_vocab (cfg : Cfg) (s : Client × World) (c : ClientCall) (h : ConnOK s.2) :
    Wrote (ClientVocab cfg) s.2 (runClientCall cfg s c).2 := by
  -- each call is a path of exchanges whose commands are in the vocabulary (which disjunct of it: `simp` looks)
  have lift : ∀ {T n w'}, Exchanges cfg T (ClientVocab cfg) n s.2 w' → Wrote (ClientVocab cfg) s.2 w' :=
    fun he => (he.wrote h).mono fun _ hp => hp.elim id fun hp => hp.elim .inl fun hp => .inr (.inl hp)
  have cleanup : ∀ p, CleanupCmd cfg p → ClientVocab cfg p := fun p hp => by simp [ClientVocab, hp]
  cases c with
  | configure =>
    exact lift (exchanges_configure (by simp [ClientVocab]) (by simp [ClientVocab]) (by simp [ClientVocab]) cleanup (eta3 _))
  | readCard => exact lift (exchanges_readCard (by simp [ClientVocab]) (Prod.eta _).symm)
  | begin t => exact lift (exchanges_beginTx (.inr (.inr (.inr (.inr (.inr (.inr (.inr (.inl ⟨t, rfl⟩)))))))) (eta3 _))
  | commit t f =>
    exact lift (exchanges_commitTx (fun r _ => .inr (.inr (.inr (.inr (.inr (.inr (.inr (.inr ⟨t, r, f, rfl⟩))))))))
      (fun _ => cleanup) (eta3 _))
  | cancel t =>
    exact lift (exchanges_cancelTx (fun r _ => cleanup _ (.inr (.inl ⟨r, rfl⟩))) (fun _ => cleanup) (eta3 _))

/-- **The client never leaves its vocabulary**: after ANY history of public calls against ANY terminal, on every connection the
traffic has only grown, and every packet the client added — anywhere — is an acknowledgement, a handshake packet or one of its
own commands built from its configuration (identity request, set-terminal-id, initialisation, pending query, reversal, end-of-day,
read-card, a reservation for some token, a partial reversal for some token / receipt / amount). -/
theorem history_writes_vocab (cfg : Cfg) : ∀ (calls : List ClientCall) (s : Client × World), ConnOK s.2 →
    Wrote (ClientVocab cfg) s.2 (runClientCalls cfg s calls).2 := by
  intro calls
  induction calls with
  | nil => intro s h; exact Wrote.refl _ _ h
  | cons c cs ih =>
    intro s h
    have h1 := call_writes_vocab cfg s c h
    simp only [runClientCalls, List.foldl_cons]
    exact h1.trans (ih (runClientCall cfg s c) h1.ok)

/-- the initial world (no connection yet) is well-formed; so is every world reached by a history. -/
theorem connOK_initial (w : World) (h : w.conn = none) : ConnOK w := by
  intro c hc; rw [h] at hc; cases hc

/-- non-vacuity, kernel-evaluated on the model: against a healthy terminal (default replies; it issues receipt 1 for a
reservation) the history begin a · begin b · commit a · read_card never closes the last open token (`NeverIdle` holds: the commit
leaves b open), the commit is the third call, and on the one connection the client opened NO packet starts with 06 50 after the
start-up — while committing the LAST token (begin a · commit a) does request end-of-day. -/
example :
    let cfg : Cfg := { maxTx := 2, amount := 2500, currency := 978, password := 123456, readCardTimeout := 15,
                       serial := [65, 66], terminalId := [49] }
    let w : World := { serial := [0x41, 0x42, 0, 0, 0, 0, 0, 0], tid := [0x31, 0, 0, 0, 0, 0, 0, 0] }
    let h : List TxCall := [.begin [97], .begin [98], .commit [97] 100, .readCard]
    let s3 := [TxCall.begin [97], .begin [98]].foldl (runTxCall cfg) ({}, w)
    let sEnd := h.foldl (runTxCall cfg) ({}, w)
    let sIdle := [TxCall.begin [97], .commit [97] 100].foldl (runTxCall cfg) ({}, w)
    s3.1.txs.map (·.1) = [[98], [97]] ∧ (s3.1.txs.filter (·.1 ≠ [97]) ≠ []) ∧
    sEnd.1.txs.map (·.1) = [[98]] ∧
    ((sEnd.2.sentOn 0).filter (fun p => p.take 2 = [0x06, 0x50])).length = 0 ∧
    ((sIdle.2.sentOn 0).filter (fun p => p.take 2 = [0x06, 0x50])).length = 1 := by
  decide +kernel

/-- non-vacuity: two open tokens, committing one of them satisfies the hypothesis of `commit_writes_while_open`. -/
example : ([([97], 11), ([98], 12)] : List (List Nat × Nat)).find? (·.1 = [97]) = some ([97], 11) ∧
    ([([97], 11), ([98], 12)] : List (List Nat × Nat)).filter (·.1 ≠ [97]) ≠ [] := by decide

end Zvt.Traffic
