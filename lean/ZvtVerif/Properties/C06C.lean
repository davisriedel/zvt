/-
  C06 / C05 at the terminal client's own stream (`seqNext` of Client.lean: one `stream.next()` of a
  `Sequence::into_stream` on the live connection, as `into_stream_with_retry` polls it): the first failure is the
  last item, after it the stream is silent, a reply that cannot be interpreted is never acknowledged, and the stream
  ends right after the first final packet.
-/
import ZvtVerif.Proofs.ClientRetry

namespace Zvt.C06C

/-- a finished stream does nothing: no read, no write, no time. -/
theorem done_is_silent (d : SeqDesc) (dl : Nat) (w : World) (c : ConnSt) :
    seqNext d dl w c .done = (.ended, w, c, .done) := rfl

/-- the state a `next()` leaves the stream in, by what it yielded. -/
theorem next_state (d : SeqDesc) (dl : Nat) (w : World) (c : ConnSt) (st : SeqSt) :
    match (seqNext d dl w c st).1 with
    | .item (.ok i _) =>
      (seqNext d dl w c st).2.2.2 = if d.once = true ∨ isFinalOf d.enum d.finals i = true then .done else .looping
    | _ => (seqNext d dl w c st).2.2.2 = .done :=
  seqNext_state d dl w c st

/-- **the first failure is the last item**: whatever state the stream is in, an error item or a time-out leaves it
finished — the next `next()` yields nothing and touches nothing (`done_is_silent`). -/
theorem error_is_last (d : SeqDesc) (dl : Nat) (w : World) (c : ConnSt) (st : SeqSt)
    (h : (seqNext d dl w c st).1 = .item .err ∨ (seqNext d dl w c st).1 = .hang) :
    (seqNext d dl w c st).2.2.2 = .done := by
  have := next_state d dl w c st
  rcases h with h | h <;> (rw [h] at this; exact this)

/-- **the stream ends right after the first final packet** (and, for a one-reply command, after its one reply):
the state after yielding it is `done`, so nothing behind it is ever read. -/
theorem final_is_last (d : SeqDesc) (dl : Nat) (w : World) (c : ConnSt) (st : SeqSt) (i : Nat) (v : Val)
    (h : (seqNext d dl w c st).1 = .item (.ok i v)) (hf : d.once = true ∨ isFinalOf d.enum d.finals i = true) :
    (seqNext d dl w c st).2.2.2 = .done := by
  have := next_state d dl w c st
  rw [h] at this
  simpa [hf] using this

/-- … and goes on after a packet that is not final. -/
theorem nonfinal_continues (d : SeqDesc) (dl : Nat) (w : World) (c : ConnSt) (st : SeqSt) (i : Nat) (v : Val)
    (h : (seqNext d dl w c st).1 = .item (.ok i v)) (hf : ¬ (d.once = true ∨ isFinalOf d.enum d.finals i = true)) :
    (seqNext d dl w c st).2.2.2 = .looping := by
  have := next_state d dl w c st
  rw [h] at this
  simpa [hf] using this

/-- **a reply that cannot be interpreted is never acknowledged**: when a `next()` of a running exchange ends in an
error item — undecodable packet, packet outside the reply set, end of stream, or the terminal has hung up — the
terminal's log of this and every other connection is exactly what it was: nothing was written. -/
theorem failed_reply_not_acknowledged (d : SeqDesc) (dl : Nat) (w : World) (c : ConnSt)
    (h : (seqNext d dl w c .looping).1 = .item .err) :
    (seqNext d dl w c .looping).2.1.logs = w.logs := by
  rcases seqNext_looping_cases d dl w c with ⟨_, _, e⟩ | ⟨_, _, _, _, _, e⟩ <;> rw [e] at h ⊢
  · -- nothing was written: the world is the one the read left, and a read only moves the clock
    obtain ⟨⟨_, hk, _⟩, _⟩ := readBy_spec dl w c
    simp only [hk]; rfl
  · cases h

/-- **C05 / C06 on the wire, at the client's stream**: what one `stream.next()` writes on its connection (`sentOn`: the
packets the terminal logged as received). The first call writes the command once and — exactly when it yields a
decoded packet — one acknowledgement behind it; every later call writes one acknowledgement exactly when it yields a
decoded packet; a finished stream writes nothing. So every packet handed to the caller was answered exactly once, before
it was handed over, and an error item or a time-out never comes with an acknowledgement. -/
theorem next_writes (d : SeqDesc) (dl : Nat) (w : World) (c : ConnSt) (st : SeqSt) (hl : c.id < w.logs.length) :
    ∃ S, (seqNext d dl w c st).2.1.sentOn c.id = w.sentOn c.id ++ S ∧
      (match st with
       | .start => ((seqNext d dl w c st).1.isOk = true ∧ S = [d.cmd, ackBytes]) ∨
                   ((seqNext d dl w c st).1.isOk = false ∧ (S = [] ∨ S = [d.cmd]))
       | .looping => ((seqNext d dl w c st).1.isOk = true ∧ S = [ackBytes]) ∨
                     ((seqNext d dl w c st).1.isOk = false ∧ S = [])
       | .done => S = []) :=
  seqNext_writes d dl w c st hl

/-- **C05 at the client, one attempt**: on its connection an attempt writes the command at most once — as the very first
thing — and after it nothing but acknowledgements (one per packet it handed to the caller, `next_writes`). -/
theorem attempt_writes {σ ρ : Type} (d : SeqDesc) (timeout : Nat) (step : σ → Item → Step σ ρ)
    (fuel : Nat) (w : World) (c : ConnSt) (s : σ) (hl : c.id < w.logs.length) :
    (runItems d timeout step fuel w c .start s).2.1.sentOn c.id = w.sentOn c.id ∨
    ∃ k, (runItems d timeout step fuel w c .start s).2.1.sentOn c.id = w.sentOn c.id ++ d.cmd :: List.replicate k ackBytes := by
  obtain ⟨S, hS, h | ⟨k, h⟩⟩ := runItems_writes d timeout step fuel w c .start s hl
  · left; rw [hS, h, List.append_nil]
  · right; exact ⟨k, by rw [hS, h]⟩

end Zvt.C06C
