/-
  C07 — transaction tokens map one-to-one onto open pre-authorisations.

  The client keeps `txs : List (token × receipt)`. Abstract specification: a finite map from tokens to
  receipt numbers. The theorems below hold for EVERY world (terminal script, faults, time) because they
  only depend on the guards and on how the outcome of the exchange is folded into the map.
-/
import ZvtVerif.Proofs.ClientRetry
namespace Zvt.C07

/-- the map invariant: at most one entry per token. -/
def Inv (cl : Client) : Prop := (cl.txs.map (·.1)).Nodup

/-- a call refused by the guards (`Maximum number of transactions reached` / `Token already in use`)
returns without touching the world: no traffic, no time, token map unchanged. -/
theorem begin_refused_no_traffic (cfg : Cfg) (cl : Client) (token : List Nat) (w : World)
    (h : cl.txs.length = cfg.maxTx ∨ cl.txs.any (·.1 = token) = true) :
    (beginTx cfg cl token w = (.error .activeMax, cl, w)) ∨ (beginTx cfg cl token w = (.error .activeInUse, cl, w)) := by
  unfold beginTx
  by_cases h1 : cl.txs.length = cfg.maxTx
  · left; simp [h1]
  · rcases h with h | h
    · exact absurd h h1
    · right; simp [h1, h]

theorem commit_unknown_no_traffic (cfg : Cfg) (cl : Client) (token : List Nat) (final : Nat) (w : World)
    (h : cl.txs.find? (·.1 = token) = none) :
    commitTx cfg cl token final w = (.error (.unknownToken token), cl, w) := by
  unfold commitTx; simp [h]

theorem cancel_unknown_no_traffic (cfg : Cfg) (cl : Client) (token : List Nat) (w : World)
    (h : cl.txs.find? (·.1 = token) = none) :
    cancelTx cfg cl token w = (.error (.unknownToken token), cl, w) := by
  unfold cancelTx; simp [h]

theorem endOfDay_clears (cfg : Cfg) (cl : Client) (w : World) : (endOfDay cfg cl w).2.1.txs = [] := by
  unfold endOfDay
  simp only
  split
  · rfl
  · split <;> rfl

theorem idleCleanup_txs (cfg : Cfg) (cl : Client) (w : World) : (idleCleanup cfg cl w).2.1.txs = cl.txs := by
  unfold idleCleanup
  split
  · next he => rw [endOfDay_clears]; exact (List.isEmpty_iff.mp he).symm
  · rfl

abbrev SMap := List (List Nat × Nat)

theorem filter_of_find_none (m : SMap) (t : List Nat) (h : m.find? (·.1 = t) = none) : m.filter (·.1 ≠ t) = m := by
  rw [List.filter_eq_self]
  intro a ha
  have := List.find?_eq_none.mp h a ha
  simpa using this

theorem commitTx_txs (cfg : Cfg) (cl : Client) (token : List Nat) (final : Nat) (w : World) :
    (commitTx cfg cl token final w).2.1.txs = cl.txs.filter (·.1 ≠ token) := by
  unfold commitTx
  split
  · next h => exact (filter_of_find_none _ _ h).symm
  · unfold commitFold
    split
    · rfl
    · next st w1 _ =>
      -- the exchange ran to its end, in the world `w1`: the map is the one the idle clean-up there leaves
      have h := idleCleanup_txs cfg { txs := cl.txs.filter (·.1 ≠ token) } w1
      split
      · next heq => rwa [heq] at h
      · next heq => rw [heq] at h; split <;> exact h

theorem cancelTx_txs (cfg : Cfg) (cl : Client) (token : List Nat) (w : World) :
    (cancelTx cfg cl token w).2.1.txs = cl.txs.filter (·.1 ≠ token) := by
  unfold cancelTx
  split
  · next h => exact (filter_of_find_none _ _ h).symm
  · unfold cancelFold
    split
    · rfl
    · exact idleCleanup_txs cfg _ _

theorem beginStep_ret_is_error (e : EnumDef) (s : Option Nat) (it : Item) (r : CRes Unit)
    (h : beginStep e s it = .ret r) : ∃ er, r = .error er := by
  unfold beginStep at h
  cases it with
  | err => simp at h
  | ok i v =>
    simp only at h
    split at h
    · simp at h; exact ⟨_, h.symm⟩
    · split at h
      · split at h <;> simp at h
      · simp at h

theorem beginTx_cases (cfg : Cfg) (cl : Client) (token : List Nat) (w : World) :
    ((∃ e, (beginTx cfg cl token w).1 = .error e) ∧ (beginTx cfg cl token w).2.1 = cl) ∨
    ((beginTx cfg cl token w).1 = .ok () ∧ cl.txs.length ≠ cfg.maxTx ∧ cl.txs.any (·.1 = token) = false ∧
      ∃ rc, (beginTx cfg cl token w).2.1.txs = (token, rc) :: cl.txs.filter (·.1 ≠ token)) := by
  unfold beginTx
  split
  · exact .inl ⟨⟨_, rfl⟩, rfl⟩
  · split
    · exact .inl ⟨⟨_, rfl⟩, rfl⟩
    · next h1 h2 =>
      -- an early result of the exchange is the loop body's, and that is always an error
      have hret := runOp_ret_from_step cfg "sequences::Reservation" (reservationCmd cfg token) TIMEOUT
        (beginStep (findEnumG "sequences::AuthorizationResponse")) w none (fun r => ∃ er, r = .error er)
        (beginStep_ret_is_error _)
      generalize runOp cfg "sequences::Reservation" (reservationCmd cfg token) TIMEOUT
        (beginStep (findEnumG "sequences::AuthorizationResponse")) w none = q at hret ⊢
      obtain ⟨st, w1⟩ := q
      cases st with
      | ret r => obtain ⟨er, rfl⟩ := hret r rfl; exact .inl ⟨⟨er, rfl⟩, rfl⟩
      | cont s =>
        cases s with
        | none => exact .inl ⟨⟨_, rfl⟩, rfl⟩
        | some rc => exact .inr ⟨rfl, h1, Bool.eq_false_iff.mpr h2, rc, rfl⟩

/-- **begin**: whatever the terminal does, the map afterwards is either unchanged or the old map plus
exactly `token ↦ rc` for one receipt number `rc` — the latter only if the call succeeded, the token was
not open and the map was not full. -/
theorem begin_post (cfg : Cfg) (cl : Client) (token : List Nat) (w : World) :
    ((beginTx cfg cl token w).2.1 = cl) ∨
    (∃ rc, (beginTx cfg cl token w).2.1.txs = (token, rc) :: cl.txs.filter (·.1 ≠ token) ∧
      (beginTx cfg cl token w).1 = .ok () ∧ cl.txs.length ≠ cfg.maxTx ∧ cl.txs.any (·.1 = token) = false) := by
  rcases beginTx_cases cfg cl token w with ⟨_, h⟩ | ⟨hok, h1, h2, rc, hrc⟩
  · exact .inl h
  · exact .inr ⟨rc, hrc, hok, h1, h2⟩

/-- a begin that reports success has recorded the token (with the receipt number the terminal issued). -/
theorem begin_ok_recorded (cfg : Cfg) (cl : Client) (t : List Nat) (w : World) (h : (beginTx cfg cl t w).1 = .ok ()) :
    ∃ rc, (beginTx cfg cl t w).2.1.txs = (t, rc) :: cl.txs.filter (·.1 ≠ t) := by
  rcases beginTx_cases cfg cl t w with ⟨⟨e, he⟩, _⟩ | ⟨_, _, _, hrc⟩
  · rw [he] at h; cases h
  · exact hrc

/-- **commit** closes exactly the given token, whatever the terminal does. -/
theorem commit_post (cfg : Cfg) (cl : Client) (token : List Nat) (final : Nat) (w : World)
    (receipt : Nat) (h : cl.txs.find? (·.1 = token) = some (token, receipt)) :
    (commitTx cfg cl token final w).2.1.txs = cl.txs.filter (·.1 ≠ token) := commitTx_txs cfg cl token final w

/-- **cancel** closes exactly the given token, whatever the terminal does. -/
theorem cancel_post (cfg : Cfg) (cl : Client) (token : List Nat) (w : World)
    (receipt : Nat) (h : cl.txs.find? (·.1 = token) = some (token, receipt)) :
    (cancelTx cfg cl token w).2.1.txs = cl.txs.filter (·.1 ≠ token) := cancelTx_txs cfg cl token w

theorem filter_nodup (l : List (List Nat × Nat)) (token : List Nat) (h : (l.map (·.1)).Nodup) :
    ((l.filter (·.1 ≠ token)).map (·.1)).Nodup := h.sublist (List.filter_sublist.map _)

/-- the invariant (one entry per token) is preserved by begin … -/
theorem begin_inv (cfg : Cfg) (cl : Client) (token : List Nat) (w : World) (h : Inv cl) :
    Inv (beginTx cfg cl token w).2.1 := by
  rcases begin_post cfg cl token w with heq | ⟨rc, heq, _, _, _⟩
  · rw [heq]; exact h
  · unfold Inv; rw [heq]
    simp only [List.map_cons, List.nodup_cons]
    refine ⟨?_, filter_nodup cl.txs token h⟩
    simp [List.mem_map, List.mem_filter]

/-- … and by commit and cancel of an open token. -/
theorem commit_inv (cfg : Cfg) (cl : Client) (token : List Nat) (final : Nat) (w : World)
    (receipt : Nat) (hf : cl.txs.find? (·.1 = token) = some (token, receipt)) (h : Inv cl) :
    Inv (commitTx cfg cl token final w).2.1 := by
  unfold Inv; rw [commitTx_txs]; exact filter_nodup cl.txs token h

theorem cancel_inv (cfg : Cfg) (cl : Client) (token : List Nat) (w : World)
    (receipt : Nat) (hf : cl.txs.find? (·.1 = token) = some (token, receipt)) (h : Inv cl) :
    Inv (cancelTx cfg cl token w).2.1 := by
  unfold Inv; rw [cancelTx_txs]; exact filter_nodup cl.txs token h

/-- never more open tokens than the configured maximum (starting from the empty map). -/
theorem begin_bound (cfg : Cfg) (cl : Client) (token : List Nat) (w : World) (h : cl.txs.length ≤ cfg.maxTx) :
    (beginTx cfg cl token w).2.1.txs.length ≤ cfg.maxTx := by
  rcases begin_post cfg cl token w with heq | ⟨rc, heq, _, hmax, hany⟩
  · rw [heq]; exact h
  · rw [heq]
    have : (cl.txs.filter (·.1 ≠ token)).length ≤ cl.txs.length := List.length_filter_le _ _
    simp only [List.length_cons]
    omega

/-- after an entry `token ↦ r` exists, the request commit issues is built from exactly `r`. -/
theorem commit_uses_own_receipt (cfg : Cfg) (cl : Client) (token : List Nat) (final : Nat) (w : World)
    (receipt : Nat) (h : cl.txs.find? (·.1 = token) = some (token, receipt)) :
    commitTx cfg cl token final w =
      commitFold cfg { txs := cl.txs.filter (·.1 ≠ token) }
        (runOp cfg "sequences::PartialReversal" (commitCmd cfg token receipt final) TIMEOUT
          (commitStep (findEnumG "sequences::PartialReversalResponse")) w none) := by
  unfold commitTx; simp only [h]

/-! ### every reachable state: induction over arbitrary call histories -/

inductive Call where
  | begin (token : List Nat)
  | commit (token : List Nat) (final : Nat)
  | cancel (token : List Nat)

def runCall (cfg : Cfg) (s : Client × World) : Call → Client × World
  | .begin t => ((beginTx cfg s.1 t s.2).2.1, (beginTx cfg s.1 t s.2).2.2)
  | .commit t f => ((commitTx cfg s.1 t f s.2).2.1, (commitTx cfg s.1 t f s.2).2.2)
  | .cancel t => ((cancelTx cfg s.1 t s.2).2.1, (cancelTx cfg s.1 t s.2).2.2)

def runCalls (cfg : Cfg) (s : Client × World) (calls : List Call) : Client × World := calls.foldl (runCall cfg) s

theorem call_preserves (cfg : Cfg) (s : Client × World) (c : Call) (h : Inv s.1 ∧ s.1.txs.length ≤ cfg.maxTx) :
    Inv (runCall cfg s c).1 ∧ (runCall cfg s c).1.txs.length ≤ cfg.maxTx := by
  obtain ⟨hi, hl⟩ := h
  have hlen := fun t : List Nat => Nat.le_trans (List.length_filter_le (fun x : List Nat × Nat => decide (x.1 ≠ t)) s.1.txs) hl
  cases c with
  | begin t => exact ⟨begin_inv cfg s.1 t s.2 hi, begin_bound cfg s.1 t s.2 hl⟩
  | commit t f => simp only [runCall, Inv, commitTx_txs]; exact ⟨filter_nodup _ t hi, hlen t⟩
  | cancel t => simp only [runCall, Inv, cancelTx_txs]; exact ⟨filter_nodup _ t hi, hlen t⟩

/-- **Every reachable state** — after ANY history of begin / commit / cancel calls against ANY terminal
behaviour (the world `w` is arbitrary: replies, faults, time-outs), starting from the empty map: each open
token has exactly one receipt and the number of open tokens never exceeds the configured maximum. -/
theorem reachable_inv (cfg : Cfg) (w : World) (calls : List Call) :
    Inv (runCalls cfg ({}, w) calls).1 ∧ (runCalls cfg ({}, w) calls).1.txs.length ≤ cfg.maxTx := by
  have key : ∀ (calls : List Call) (s : Client × World), (Inv s.1 ∧ s.1.txs.length ≤ cfg.maxTx) →
      Inv (runCalls cfg s calls).1 ∧ (runCalls cfg s calls).1.txs.length ≤ cfg.maxTx := by
    intro calls
    induction calls with
    | nil => intro s h; exact h
    | cons c cs ih => intro s h; exact ih (runCall cfg s c) (call_preserves cfg s c h)
  exact key calls ({}, w) ⟨by simp [Inv], by simp⟩

/-- non-vacuity: a concrete client state satisfying the invariant, with one open token. -/
example : Inv { txs := [([97], 11)] } := by simp [Inv]

end Zvt.C07
