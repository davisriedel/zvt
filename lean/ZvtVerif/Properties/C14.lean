/-
  C14 — a decoded packet depends only on the bytes inside its announced length.

  The suffix law, for every input that decodes (canonical or not): for the prefix readers of the delimiting styles
  (`lenDe_append`) and of tags, for the `<TAG><LENGTH><DATA>` triple over any payload decoder (`deserTagged_append`), hence
  for every command (`cmd_suffix`) and every field under a delimiting style that is neither `Option` nor `Vec`
  (`field_suffix`; a tagged `Option`: `tagged_opt_suffix`). `Empty` does not delimit: the counter-example at the end.
-/
import ZvtVerif.Proofs.DeriveLemmas
import ZvtVerif.Generated
import ZvtVerif.Proofs.LengthLemmas
import ZvtVerif.Proofs.EncodingLemmas
namespace Zvt.C14

/-- the length-prefix styles that delimit their payload: those of `LenFits` (`tlv`, `llv`, `fixed`, and `adpu` for the
packet frame), here without a length to fit. Hypothesis of the suffix law; cf. DESIGN §5.5. -/
def Delimiting : LenKind → Prop
  | .fixed _ => True
  | .tlv => True
  | .llv _ => True
  | .adpu => True
  | _ => False

/-- a delimiting prefix parser is unaffected by appended bytes: same length, payload extended. -/
theorem lenDe_append (L : LenKind) (hL : Delimiting L) (b x : Bytes) (n : Nat) (p : Bytes)
    (h : L.de b = .ok (n, p)) : L.de (b ++ x) = .ok (n, p ++ x) := by
  cases L with
  | empty | temperature | unknown => exact hL.elim
  | llv k => exact llvDe_append k 0 b x n p h
  | fixed k =>
    simp only [LenKind.de] at h ⊢
    split at h
    · cases h
    · cases h; exact if_neg (by simp; omega)
  | tlv => exact (tlvDe_reads b).append x h
  | adpu => exact (adpuDe_reads b).append x h

theorem tagDecDefault_append (b x : Bytes) (t : Nat) (r : Bytes) (h : tagDecDefault b = .ok (t, r)) :
    tagDecDefault (b ++ x) = .ok (t, r ++ x) := (tagDecDefault_reads b).append x h

theorem stripTag_append (tagDec : Bytes → Res (Nat × Bytes))
    (htag : ∀ b x t r, tagDec b = .ok (t, r) → tagDec (b ++ x) = .ok (t, r ++ x))
    (tag : Option Nat) (b x r : Bytes) (h : stripTag tagDec tag b = .ok r) :
    stripTag tagDec tag (b ++ x) = .ok (r ++ x) := by
  unfold stripTag at h ⊢
  cases tag with
  | none => simp at h ⊢; rw [h]
  | some t =>
    simp only at h ⊢
    cases hd : tagDec b with
    | error e => simp [hd] at h
    | ok p =>
      obtain ⟨a, r'⟩ := p
      rw [htag b x a r' hd]
      simp only [hd] at h
      simp only
      split at h
      · simp at h
      · rename_i hne; simp only [hne, if_false] ; simp at h; rw [h]

/-- **Container law.** Behind a delimiting length prefix, the field decoder sees exactly the announced
bytes: whatever is appended after the container is handed back untouched and cannot change the value.
Holds for *every* input `b` that decodes (not only for canonical encodings) and every payload decoder. -/
theorem deserTagged_append {α : Type} (tagDec : Bytes → Res (Nat × Bytes))
    (htag : ∀ b x t r, tagDec b = .ok (t, r) → tagDec (b ++ x) = .ok (t, r ++ x))
    (L : LenKind) (hL : Delimiting L) (dec : Bytes → Res (α × Bytes)) (tag : Option Nat)
    (b x : Bytes) (v : α) (r : Bytes) (h : deserTagged tagDec L dec tag b = .ok (v, r)) :
    deserTagged tagDec L dec tag (b ++ x) = .ok (v, r ++ x) := by
  obtain ⟨b1, n, pl, rem, hs, hl, hle, hd, hr, rfl⟩ := (deserTagged_eq_ok ..).mp h
  refine (deserTagged_eq_ok ..).mpr ⟨b1 ++ x, n, pl ++ x, rem, stripTag_append tagDec htag tag b x b1 hs,
    lenDe_append L hL b1 x n pl hl, by simp; omega, by rw [List.take_append_of_le_length hle]; exact hd, hr, ?_⟩
  rw [List.drop_append_of_le_length (by omega)]

/-- **Packets.** Appending arbitrary bytes after a packet does not change the decoded value, and those
bytes come back untouched as the remainder — for every command type, every input that decodes. -/
theorem cmd_suffix (s : StructDef) (c : Nat × Nat) (hc : s.ctrl = some c) (b x : Bytes) (v : Val) (r : Bytes)
    (h : decodeCmd s b = .ok (v, r)) : decodeCmd s (b ++ x) = .ok (v, r ++ x) := by
  unfold decodeCmd at h ⊢
  simp only [hc] at h ⊢
  exact deserTagged_append tagDecBE (fun b x t r h => intDecode_append true 2 b x t r h) .adpu trivial _ _ b x v r h

/-- **Nested containers.** The same for every field under a delimiting length style (fixed, LLVAR,
LLLVAR, BER-TLV) whose type is a number, text, binary payload, date-time or nested struct. -/
theorem field_suffix (ty : Ty) (L : LenKind) (E : Enc) (tag : Option Nat) (hL : Delimiting L)
    (hty : match ty with | .opt _ => False | .vec _ => False | _ => True)
    (b x : Bytes) (v : Val) (r : Bytes) (h : Ty.de ty L E tag b = .ok (v, r)) :
    Ty.de ty L E tag (b ++ x) = .ok (v, r ++ x) := by
  have hp : ty.plain = true := by
    cases ty with
    | opt | vec => exact hty.elim
    | int | str | bytes | dateTime | struct => rfl
  rw [de_plain ty hp] at h ⊢
  exact deserTagged_append _ tagDecDefault_append L hL _ tag b x v r h

/-- a tagged optional field inherits the law (an absent tagged field is decided by the caller's tag loop). -/
theorem tagged_opt_suffix (t : Ty) (L : LenKind) (E : Enc) (tg : Nat) (hL : Delimiting L)
    (hty : match t with | .opt _ => False | .vec _ => False | _ => True)
    (b x : Bytes) (v : Val) (r : Bytes) (h : Ty.de (.opt t) L E (some tg) b = .ok (v, r)) :
    Ty.de (.opt t) L E (some tg) (b ++ x) = .ok (v, r ++ x) := by
  simp only [Ty.de] at h ⊢
  cases hd : Ty.de t L E (some tg) b with
  | error e => simp [hd] at h
  | ok p =>
    obtain ⟨v', r'⟩ := p
    rw [field_suffix t L E (some tg) hL hty b x v' r' hd]
    simp only [hd] at h
    simp at h ⊢
    obtain ⟨rfl, rfl⟩ := h
    exact ⟨rfl, rfl⟩

/-- Why `Empty` is *not* delimiting (documented counter-example): an untagged text field without length
prefix swallows whatever follows it. -/
example : (Ty.de .str .empty .dflt none [0x41]).isOkVal (.str [0x41]) [] = true ∧
    (Ty.de .str .empty .dflt none ([0x41] ++ [0x42])).isOkVal (.str [0x41, 0x42]) [] = true := by decide +kernel

/-- non-vacuity: an abort (`06 1E`, one byte of body) followed by the first three bytes of another packet. -/
example : (decodeCmd Generated.packets_Abort ([0x06, 0x1e, 0x01, 0x6c] ++ [0x80, 0x00, 0x00])).isOkVal
    (.struct [.num 0x6c]) [0x80, 0x00, 0x00] = true := by decide +kernel

end Zvt.C14
