/-
  C19 — going idle triggers clean-up; end-of-day never runs over open transactions.
-/
import ZvtVerif.Properties.C07
namespace Zvt.C19

/-- **While other transactions are open nothing is requested**: the step commit and cancel take after
their own exchange is the identity on the world — not one packet, no pending query, no end-of-day. -/
theorem no_cleanup_while_open (cfg : Cfg) (cl : Client) (w : World) (h : cl.txs ≠ []) :
    idleCleanup cfg cl w = (.ok (), cl, w) := by
  unfold idleCleanup
  have : cl.txs.isEmpty = false := by cases hc : cl.txs <;> simp_all
  simp [this]

/-- **Going idle**: when no transaction is left open the very next thing is `end_of_day`. -/
theorem cleanup_when_idle (cfg : Cfg) (cl : Client) (w : World) (h : cl.txs = []) :
    idleCleanup cfg cl w = endOfDay cfg cl w := by
  unfold idleCleanup; simp [h]

/-- commit reaches the clean-up step exactly when the terminal did not abort the partial reversal (the
`ret` outcome is the abort: C20), with the token already closed. -/
theorem commit_then_cleanup (cfg : Cfg) (cl : Client) (st : Option Val) (w : World) :
    commitFold cfg cl (.cont st, w) =
      match idleCleanup cfg cl w with
      | (.error er, cl, w) => (.error er, cl, w)
      | (.ok _, cl, w) =>
        match st with
        | none => (.error (.zvt .incomplete), cl, w)
        | some v => (.ok (summaryOf v), cl, w) := rfl

theorem commit_abort_no_cleanup (cfg : Cfg) (cl : Client) (r : CRes Summary) (w : World) :
    commitFold cfg cl (.ret r, w) = (r, cl, w) := rfl

/-- cancel reaches the clean-up step exactly when the reversal was completed. -/
theorem cancel_then_cleanup (cfg : Cfg) (cl : Client) (w : World) :
    cancelFold cfg cl (.ok (), w) = idleCleanup cfg cl w := rfl

theorem cancel_failed_no_cleanup (cfg : Cfg) (cl : Client) (e : CErr) (w : World) :
    cancelFold cfg cl (.error e, w) = (.error e, cl, w) := rfl

/-- **Order of the clean-up**: pending query; only if it succeeded, the reversal of every reported
receipt, stopping at the first failure; only if all succeeded, the end-of-day request. A failing query
or reversal is the call's result and nothing else is sent. -/
theorem endOfDay_order (cfg : Cfg) (cl : Client) (w : World) :
    endOfDay cfg cl w =
      match getPending cfg w with
      | (.error e, w1) => (.error e, { txs := [] }, w1)
      | (.ok pend, w1) =>
        match cancelAll cfg pend w1 with
        | (.error e, w2) => (.error e, { txs := [] }, w2)
        | (.ok _, w2) =>
          ((simpleOp cfg "sequences::EndOfDay" (encodeReq "packets::EndOfDay" (.struct [.num cfg.password])) w2 eodDecide).1,
           { txs := [] },
           (simpleOp cfg "sequences::EndOfDay" (encodeReq "packets::EndOfDay" (.struct [.num cfg.password])) w2 eodDecide).2) := by
  unfold endOfDay
  simp only
  rcases getPending cfg w with ⟨r, w1⟩
  cases r with
  | error e => rfl
  | ok pend =>
    simp only
    rcases cancelAll cfg pend w1 with ⟨r2, w2⟩
    cases r2 with
    | error e => rfl
    | ok u => rfl

/-- the pending query reports a dangling pre-authorisation iff the terminal's answer carries a receipt
number other than FFFF; exactly that receipt is reversed. -/
theorem cancelAll_nil (cfg : Cfg) (w : World) : cancelAll cfg [] w = (.ok (), w) := rfl

theorem cancelAll_single (cfg : Cfg) (r : Nat) (w : World) :
    cancelAll cfg [r] w = match cancelByReceipt cfg r w with
      | (.error e, w) => (.error e, w)
      | (.ok _, w) => (.ok (), w) := by
  simp only [cancelAll]
  rcases cancelByReceipt cfg r w with ⟨x, w1⟩
  cases x <;> rfl

/-- end-of-day outcome: completion or "receiver not ready" ⇒ success; any other refusal ⇒ that error. -/
theorem eod_outcome (e : EnumDef) (i : Nat) (v : Val) :
    eodDecide e i v =
      if variantName e i = "CompletionData" then .ret (.ok ())
      else if variantName e i = "Abort" then
        (if errorCode prAbortStruct v = 0xa0 then .ret (.ok ()) else .ret (.error (.zvt (.aborted (errorCode prAbortStruct v)))))
      else .cont () := rfl

/-- after the clean-up the map is empty and stays consistent. -/
theorem cleanup_keeps_map (cfg : Cfg) (cl : Client) (w : World) : (idleCleanup cfg cl w).2.1.txs = cl.txs :=
  C07.idleCleanup_txs cfg cl w

end Zvt.C19
