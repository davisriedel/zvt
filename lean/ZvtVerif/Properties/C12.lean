/-
  C12 — the derive macro implements the declared layout for any user-defined struct.

  The theorems of C14 (suffix independence of every command and delimited container, for ALL schemas),
  C15 (dispatch, for ALL enum definitions) and C13/C01 are quantified over arbitrary schemas — any size,
  any nesting depth — which is the "programs" quantifier of this property. `any_wellformed_roundtrip` is the
  round trip for EVERY schema accepted by the Boolean well-formedness check `structWf` (Proofs/CanonDomain.lean).
  This file adds what is specific: the boundary of well-formedness, as kernel-checked counter-examples, each
  of which `fieldsWf` rejects.
-/
import ZvtVerif.Properties.C14
import ZvtVerif.Proofs.Canon
namespace Zvt.C12

/-- the macro decodes ALL positional fields first, whatever the declaration order: a struct that declares
a positional field after a tagged one serialises in declaration order but cannot read its own output. -/
def posAfterTagged : List Field := [.mk "a" (some 1) .empty .dflt (.int 1), .mk "b" none .empty .dflt (.int 1)]

theorem wf_positional_first_is_necessary :
    (encFields posAfterTagged [.num 7, .num 9] == .ok [0x01, 0x07, 0x09]) = true ∧
    (match decStruct posAfterTagged [0x01, 0x07, 0x09] with
      | .ok (v, _) => Val.beq v (.struct [.num 7, .num 9])
      | .error _ => false) = false := by decide +kernel

/-- a one-byte tag 0x1F cannot be represented: the encoder writes one byte, the decoder reads two. -/
def tag1f : List Field := [.mk "a" (some 0x1f) .empty .dflt (.opt (.int 1))]

theorem wf_tag_representable_is_necessary :
    (encFields tag1f [.some (.num 7)] == .ok [0x1f, 0x07]) = true ∧
    (match decStruct tag1f [0x1f, 0x07] with
      | .ok (v, _) => Val.beq v (.struct [.some (.num 7)])
      | .error _ => false) = false := by decide +kernel

/-- an undelimited text field swallows the tagged fields behind it. -/
def greedyThenTagged : List Field := [.mk "a" none .empty .dflt .str, .mk "b" (some 2) .empty .dflt (.opt (.int 1))]

theorem wf_greedy_last_is_necessary :
    (match decStruct greedyThenTagged [0x41, 0x02, 0x05] with
      | .ok (v, _) => Val.beq v (.struct [.str [0x41], .some (.num 5)])
      | .error _ => false) = false := by decide +kernel

/-- the generic suffix law instantiated at an arbitrary user-defined command (re-export of C14). -/
theorem any_command_suffix (s : StructDef) (c : Nat × Nat) (hc : s.ctrl = some c) (b x : Bytes) (v : Val) (r : Bytes)
    (h : decodeCmd s b = .ok (v, r)) : decodeCmd s (b ++ x) = .ok (v, r ++ x) := C14.cmd_suffix s c hc b x v r h

/-- **Generated code = declared layout, for every well-formed user-defined struct**: serialise then deserialise
is the identity on canonical values (re-export of the generic theorem of Proofs/Canon.lean). -/
theorem any_wellformed_roundtrip (s : StructDef) (hwf : structWf s = true) (v : Val) (hc : s.canon v) :
    ∃ bytes, encodeCmd s v = .ok bytes ∧ decodeCmd s bytes = .ok (v, []) ∧
      (s.ctrl.isSome = true → ∀ x, decodeCmd s (bytes ++ x) = .ok (v, x)) :=
  packet_roundtrip s hwf v hc

/-- the well-formedness check rejects exactly the three boundary shapes above (it is not vacuous, and the
hypothesis of `any_wellformed_roundtrip` cannot be dropped). -/
theorem wf_rejects_boundary_shapes :
    fieldsWf posAfterTagged = false ∧ fieldsWf tag1f = false ∧ fieldsWf greedyThenTagged = false := by decide +kernel

end Zvt.C12
