/-
  C04 — packets are read from a byte stream exactly at APDU boundaries.
  What a Lean model cannot exhibit: the executor (wakers, `Pending`); the harness drives the real
  `read_exact` with a `Pending` between chunks — see DESIGN.md §12.
-/
import ZvtVerif.Proofs.Framing
import ZvtVerif.Proofs.LengthLemmas
import ZvtVerif.Generated
namespace Zvt.C04

/-- `read_exact` over a chunked stream depends only on the concatenation of the chunks: it returns the
first `n` bytes and leaves exactly the rest, or fails iff fewer than `n` bytes arrive before the end. -/
theorem readExact_chunking (n : Nat) (cs : List Bytes) :
    (readExactChunks n cs).map (fun p => (p.1, p.2.flatten)) = readExactFlat n cs.flatten := by
  -- the flat reader takes a byte off the front the way the chunked one does
  have peel : ∀ (n : Nat) (b : UInt8) (s : Bytes),
      readExactFlat (n + 1) (b :: s) = (readExactFlat n s).map fun p => (b :: p.1, p.2) := by
    intro n b s
    simp only [readExactFlat, List.length_cons, Nat.add_lt_add_iff_right]
    split <;> rfl
  induction n generalizing cs with
  | zero => simp [readExactChunks, readExactFlat]
  | succ n ih =>
    induction cs with
    | nil => simp [readExactChunks, readExactFlat]
    | cons c cs ihc =>
      cases c with
      -- an empty chunk is skipped; it adds nothing to the concatenation
      | nil => simpa [readExactChunks] using ihc
      | cons b c =>
        -- one byte comes off the chunk; the other `n` are read from `c :: cs`
        rw [readExactChunks, List.flatten_cons, List.cons_append, peel, ← List.flatten_cons, ← ih (c :: cs)]
        cases readExactChunks n (c :: cs) <;> rfl

/-- A complete packet — class, instr, the APDU length prefix the *writer* emits for the body length, the
body — is framed by the *reader* as exactly that packet, leaving exactly what follows: header agreement
for every body length 0..65535, both sides of the 254/255 switch. -/
theorem readFrame_exact (c i : UInt8) (body rest : Bytes) (h : body.length ≤ 65535) :
    ∃ p, LenKind.adpu.ser body.length = .ok p ∧
      readFrame (c :: i :: (p ++ body ++ rest)) = .packet (c :: i :: (p ++ body)) rest ∧
      p.length = (if body.length < 255 then 1 else 3) := by
  refine ⟨_, adpu_ser_eq body.length h, ?_, by split <;> rfl⟩
  -- the writer's two prefixes are the reader's two forms
  split
  next h1 =>
    have hb : (byte body.length).toNat = body.length := byte_toNat_lt (by omega)
    have hne : byte body.length ≠ 0xff := fun hc => by rw [← hb, hc] at h1; exact absurd h1 (by decide)
    exact readFrame_short c i _ body rest hne hb.symm
  next =>
    refine readFrame_long c i _ _ body rest ?_
    rw [byte_toNat_mod, byte_toNat_div (show body.length < 65536 by omega), Nat.mod_add_div]

/-- a connection that ends inside a packet never yields a packet. -/
theorem truncated_is_eof (s x : Bytes) (hx : x ≠ []) (h : readFrame (s ++ x) = .packet (s ++ x) [])
    : ∃ n, readFrame s = .eof n := by
  cases hs : readFrame s with
  | eof n => exact ⟨n, rfl⟩
  | packet p r =>
    -- had `s` been framed, the bytes of `x` would have stayed behind the packet
    rw [readFrame_append s p r x hs] at h
    simp [hx] at h

/-- one read on a stream that begins with a packet the reader frames as `p`. -/
theorem readPackets_frame (e : EnumDef) (fuel : Nat) (p rest : Bytes) (h : readFrame (p ++ rest) = .packet p rest) :
    readPackets e (fuel + 1) (p ++ rest) =
      (match parseEnum e p with
        | .ok (k, v) => PktOutcome.ok k v p.length
        | .error er => PktOutcome.zvtErr er p.length) :: readPackets e fuel rest := by
  simp only [readPackets, h]
  rfl

/-- a concatenation of packets is returned packet by packet, in order (one step; iterate). -/
theorem readPackets_step (e : EnumDef) (fuel : Nat) (c i : UInt8) (body rest : Bytes) (h : body.length ≤ 65535) :
    ∃ p, LenKind.adpu.ser body.length = .ok p ∧
      readPackets e (fuel + 1) (c :: i :: (p ++ body ++ rest)) =
        (match parseEnum e (c :: i :: (p ++ body)) with
          | .ok (k, v) => PktOutcome.ok k v (2 + p.length + body.length)
          | .error er => PktOutcome.zvtErr er (2 + p.length + body.length)) :: readPackets e fuel rest := by
  obtain ⟨p, hp, hf, _⟩ := readFrame_exact c i body rest h
  refine ⟨p, hp, ?_⟩
  have hlen : (c :: i :: (p ++ body)).length = 2 + p.length + body.length := by simp; omega
  rw [← hlen]
  exact readPackets_frame e fuel (c :: i :: (p ++ body)) rest hf

/-! ### k packets -/

/-- what the writer emits for a packet with control field `c i` and the given body. -/
def frameOf (pk : UInt8 × UInt8 × Bytes) : Bytes :=
  match LenKind.adpu.ser pk.2.2.length with
  | .ok p => pk.1 :: pk.2.1 :: (p ++ pk.2.2)
  | .error _ => []

/-- what one `read_packet::<T>()` must return for that packet. -/
def outcomeOf (e : EnumDef) (pk : UInt8 × UInt8 × Bytes) : PktOutcome :=
  match parseEnum e (frameOf pk) with
  | .ok (k, v) => .ok k v (frameOf pk).length
  | .error er => .zvtErr er (frameOf pk).length

theorem frameOf_exact (pk : UInt8 × UInt8 × Bytes) (rest : Bytes) (h : pk.2.2.length ≤ 65535) :
    readFrame (frameOf pk ++ rest) = .packet (frameOf pk) rest := by
  obtain ⟨p, hp, hf, _⟩ := readFrame_exact pk.1 pk.2.1 pk.2.2 rest h
  simpa [frameOf, hp] using hf

/-- **Any number of packets.** The concatenation of the frames of `k` packets (bodies of any length up to
65535, short and extended headers mixed) followed by `tail` is read as exactly those `k` packets, in order,
each read consuming exactly its own frame, and reading continues on `tail` untouched. -/
theorem readPackets_many (e : EnumDef) : ∀ (pks : List (UInt8 × UInt8 × Bytes)) (fuel : Nat) (tail : Bytes),
    (∀ pk ∈ pks, pk.2.2.length ≤ 65535) →
    readPackets e (pks.length + fuel) ((pks.map frameOf).flatten ++ tail) =
      pks.map (outcomeOf e) ++ readPackets e fuel tail := by
  intro pks
  induction pks with
  | nil => intro fuel tail _; simp
  | cons pk pks ih =>
    intro fuel tail h
    simp only [List.map_cons, List.flatten_cons, List.length_cons, List.append_assoc, List.cons_append]
    rw [show pks.length + 1 + fuel = pks.length + fuel + 1 by omega,
      readPackets_frame e _ _ _ (frameOf_exact pk _ (h pk (by simp))), ih fuel tail fun q hq => h q (by simp [hq])]
    rfl

/-- non-vacuity: two packets and a dangling byte. -/
example : (readPackets Generated.io_Ack 5 [0x80, 0, 0, 0x80, 0, 0, 0x80]).length = 3 := by decide +kernel

end Zvt.C04
