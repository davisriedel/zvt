/-
  C07R — the client REFINES the abstract specification "a finite map from tokens to receipt numbers with a bound".

  The specification (`Spec.step`) is what the property text says and nothing else: begin is refused when the map is full
  or holds the token, otherwise the terminal's verdict (a receipt number, or no reservation) decides whether the token is
  recorded; commit and cancel remove the token they name (and are refused when it is not open). The theorem
  `history_refines`: for EVERY call history and EVERY terminal (world: scripts, faults, pace) there is a sequence of terminal
  verdicts under which the specification's map equals the client's map after every prefix of the history; refused calls
  leave the world untouched; a begin reports success exactly when its verdict was a receipt number.
-/
import ZvtVerif.Properties.C07
namespace Zvt.C07

/-- is the call refused by the rules of the specification (without looking at the terminal)? -/
def Spec.refused (max : Nat) (m : SMap) : Call → Bool
  | .begin t => decide (m.length = max) || m.any (·.1 = t)
  | .commit t _ => (m.find? (·.1 = t)).isNone
  | .cancel t => (m.find? (·.1 = t)).isNone

/-- one step of the specification; `verdict` = the receipt number the terminal issued for a reservation (`none`: it
issued none — abort, missing receipt number, no answer). -/
def Spec.step (max : Nat) (m : SMap) (c : Call) (verdict : Option Nat) : SMap :=
  if Spec.refused max m c then m
  else
    match c with
    | .begin t =>
      match verdict with
      | some rc => (t, rc) :: m.filter (·.1 ≠ t)
      | none => m
    | .commit t _ => m.filter (·.1 ≠ t)
    | .cancel t => m.filter (·.1 ≠ t)

theorem Spec.step_close (max : Nat) (m : SMap) (c : Call) (t : List Nat) (v : Option Nat)
    (hc : (∃ f, c = .commit t f) ∨ c = .cancel t) : Spec.step max m c v = m.filter (·.1 ≠ t) := by
  unfold Spec.step
  rcases hc with ⟨f, rfl⟩ | rfl <;>
  · split
    · next h => exact (filter_of_find_none m t (Option.isNone_iff_eq_none.mp h)).symm
    · rfl

/-- **One call refines one step of the specification**, for every terminal: there is a verdict under which the
specification's next map IS the client's next map; a call the specification refuses leaves client and world untouched;
a begin succeeds exactly when it was not refused and the verdict is a receipt number. -/
theorem call_refines (cfg : Cfg) (s : Client × World) (c : Call) :
    ∃ verdict, (runCall cfg s c).1.txs = Spec.step cfg.maxTx s.1.txs c verdict ∧
      (Spec.refused cfg.maxTx s.1.txs c = true → runCall cfg s c = s) ∧
      (∀ t, c = .begin t → ((beginTx cfg s.1 t s.2).1 = .ok () ↔ (Spec.refused cfg.maxTx s.1.txs c = false ∧ verdict.isSome))) := by
  obtain ⟨cl, w⟩ := s
  cases c with
  | begin t =>
    rcases beginTx_cases cfg cl t w with ⟨⟨e, he⟩, hun⟩ | ⟨hok, h1, h2, rc, hrc⟩
    · -- nothing recorded: the verdict is "no reservation"
      refine ⟨none, by simp [runCall, Spec.step, hun], fun hr => ?_, fun t' ht' => by cases ht'; simp [he]⟩
      have hg : cl.txs.length = cfg.maxTx ∨ cl.txs.any (·.1 = t) = true :=
        (Bool.or_eq_true_iff.mp hr).imp of_decide_eq_true id
      rcases begin_refused_no_traffic cfg cl t w hg with hb | hb <;> simp [runCall, hb]
    · have hrf : Spec.refused cfg.maxTx cl.txs (.begin t) = false := by simp [Spec.refused, h1, h2]
      exact ⟨some rc, by simp [runCall, Spec.step, hrf, hrc], by simp [hrf], fun t' ht' => by cases ht'; simp [hok, hrf]⟩
  | commit t f =>
    refine ⟨none, by rw [Spec.step_close _ _ _ t _ (.inl ⟨f, rfl⟩)]; exact commitTx_txs cfg cl t f w, fun hr => ?_,
      fun t' ht' => by cases ht'⟩
    have hf : cl.txs.find? (·.1 = t) = none := Option.isNone_iff_eq_none.mp hr
    simp only [runCall, commit_unknown_no_traffic cfg cl t f w hf]
  | cancel t =>
    refine ⟨none, by rw [Spec.step_close _ _ _ t _ (.inr rfl)]; exact cancelTx_txs cfg cl t w, fun hr => ?_,
      fun t' ht' => by cases ht'⟩
    have hf : cl.txs.find? (·.1 = t) = none := Option.isNone_iff_eq_none.mp hr
    simp only [runCall, cancel_unknown_no_traffic cfg cl t w hf]

/-- the specification run over a history with a list of verdicts (one per call). -/
def Spec.run (max : Nat) : SMap → List Call → List (Option Nat) → SMap
  | m, [], _ => m
  | m, c :: cs, vs => Spec.run max (Spec.step max m c (vs.headD none)) cs vs.tail

/-- **Refinement over whole histories**: for every call history, every starting state and every terminal there are
verdicts (one per call) under which the specification's map is the client's map at the end (and, by the same statement
for every prefix, after each call). -/
theorem history_refines (cfg : Cfg) : ∀ (calls : List Call) (s : Client × World),
    ∃ verdicts, verdicts.length = calls.length ∧
      (runCalls cfg s calls).1.txs = Spec.run cfg.maxTx s.1.txs calls verdicts := by
  intro calls
  induction calls with
  | nil => intro s; exact ⟨[], rfl, rfl⟩
  | cons c cs ih =>
    intro s
    obtain ⟨v, hv, _, _⟩ := call_refines cfg s c
    obtain ⟨vs, hl, hvs⟩ := ih (runCall cfg s c)
    refine ⟨v :: vs, by simp [hl], ?_⟩
    simp only [runCalls, List.foldl_cons, Spec.run, List.headD_cons, List.tail_cons]
    rw [← hv]
    exact hvs

/-- the specification keeps its own invariant: at most `max` entries, one per token (so the client does: `reachable_inv`). -/
example : Spec.step 1 [] (.begin [97]) (some 11) = [([97], 11)] ∧
    Spec.step 1 [([97], 11)] (.begin [98]) (some 12) = [([97], 11)] ∧
    Spec.step 1 [([97], 11)] (.commit [97] 100) none = [] := by decide

end Zvt.C07
