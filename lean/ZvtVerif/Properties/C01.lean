/-
  C01 — every packet value survives serialise → deserialise unchanged.

  Structure of the proof (all for ARBITRARY struct definitions, any number of fields, any nesting depth):
    * length prefixes           `len_roundtrip`            (Proofs/RoundTrip.lean, from C16)
    * <TAG><LENGTH><DATA>       `deserTagged_frame` / `deserTagged_serTagged` (delimiting length styles),
                                `deserTagged_empty_ok`, `deserTagged_end` (no length prefix)
    * value encodings           `leaf_seen_roundtrip`      (LE/BE, BCD incl. zero padding, receipt number, CP437, hex, raw)
    * fields                    `leaf_rt` (every leaf shape), `bytes_field_roundtrip`, `opt_*`
    * structs (compositional)   `struct_rt_tail` (the body in front of any tail the tag loop stops on) with its
                                corollaries `struct_payload_roundtrip`, `struct_positional_suffix`,
                                `struct_payload_roundtrip_greedy`; `struct_field_roundtrip`
    * commands                  `command_of_payload`, `command_roundtrip`
    * ALL of it at once         `Ty.rt` / `fields_rt` (Proofs/Canon.lean): every field shape of every well-formed
                                schema on its canonical values — leaves incl. UTF-8 and date-time, `Option`, tagged
                                `Vec` (elements are read back when what follows does not begin with the field's own
                                number), nested structs with and without length prefix, a trailing field that takes
                                everything — and `packet_roundtrip` for packet types.
  FULL STATEMENT: `all_shipped_roundtrip` — for each of the 55 shipped types (the list is regenerated from
  the source on every run, its well-formedness is re-decided by the kernel) and every canonical value.
  The canonical domain is `StructDef.canon` (DESIGN.md §5.1 as a recursive definition over the schema),
  including §5.1's clause for ABSENT POSITIONAL optionals: such a value is canonical exactly when the field's
  own decoder reads the bytes that follow it in this encoding as "absent" (`fieldsCanon`);
  `registration_absent_currency_canon` is a canonical instance, `statusEnquiry_absent_password_not_canonical`
  a non-canonical one (the wire format has no marker for the missing field).
-/
import ZvtVerif.Proofs.Canon
import ZvtVerif.Generated
namespace Zvt.C01

theorem struct_roundtrip (ps : List PF) (qs : List TF) (hps : ∀ p ∈ ps, p.OK) (hqs : ∀ q ∈ qs, q.OK)
    (hnd : (qs.map (·.t)).Nodup) :
    encFields (ps.map (·.f) ++ qs.map (·.f)) (ps.map (·.v) ++ qs.map (·.v)) =
        .ok (ps.flatMap (·.bytes) ++ qs.flatMap (·.bytes)) ∧
    decStruct (ps.map (·.f) ++ qs.map (·.f)) (ps.flatMap (·.bytes) ++ qs.flatMap (·.bytes)) =
        .ok (.struct (ps.map (·.v) ++ qs.map (·.v)), []) :=
  struct_payload_roundtrip ps qs hps hqs hnd

/-- **Command level**: `zvt_deserialize (zvt_serialize v ++ x) = (v, x)` for every command type whose
fields round-trip. -/
theorem cmd_roundtrip (s : StructDef) (c0 c1 : Nat) (hc : s.ctrl = some (c0, c1)) (h0 : c0 < 256) (h1 : c1 < 256)
    (ps : List PF) (qs : List TF) (hfs : s.fields = ps.map (·.f) ++ qs.map (·.f))
    (hps : ∀ p ∈ ps, p.OK) (hqs : ∀ q ∈ qs, q.OK) (hnd : (qs.map (·.t)).Nodup)
    (hfit : (ps.flatMap (·.bytes) ++ qs.flatMap (·.bytes)).length ≤ 65535) (x : Bytes) :
    ∃ bytes, encodeCmd s (.struct (ps.map (·.v) ++ qs.map (·.v))) = .ok bytes ∧
      decodeCmd s (bytes ++ x) = .ok (.struct (ps.map (·.v) ++ qs.map (·.v)), x) :=
  command_roundtrip s c0 c1 hc h0 h1 ps qs hfs hps hqs hnd hfit x

/-! ### instance: a shipped packet, for ALL its values (the hypotheses of the generic theorems are satisfiable) -/

def optNumVal (o : Option Nat) : Val :=
  match o with
  | none => .none
  | some n => .some (.num n)

/-- an optional tagged fixed-width integer without length prefix (e.g. BMP 27 result code, BMP 19). -/
theorem tf_opt_int (name : String) (tg w : Nat) (hrep : tagRepresentable tg) (o : Option Nat) (ho : ∀ n, o = some n → n < 256 ^ w) :
    ∃ q : TF, q.OK ∧ q.f = .mk name (some tg) .empty .dflt (.opt (.int w)) ∧ q.t = tg ∧
      q.v = optNumVal o ∧ q.bytes.length ≤ 2 + w := by
  have hwf : Ty.wf (.opt (.int w)) .empty .dflt (some tg) = true := by
    simp [Ty.wf, Ty.plain, leafWf, leafShape, tagOK, leafLenOK, hrep]
  have hc : Ty.canon (.opt (.int w)) .empty .dflt (some tg) (optNumVal o) := by
    cases o with
    | none => simp [optNumVal, Ty.canon]
    | some n => simp only [optNumVal, Ty.canon]; exact ⟨_, rfl, trivial, ho n rfl⟩
  obtain ⟨bytes, hrt⟩ := Ty.rt _ _ _ _ _ hwf hc
  refine ⟨_, TF.ok_of_fieldRT name tg _ _ _ _ _ hrt (by simp [Ty.follow, leafFollow, selfEnding, LenKind.delim]), rfl, rfl, rfl, ?_⟩
  -- the bytes written: nothing, or the tag and `w` bytes
  have hs := hrt.ser
  cases o with
  | none => simp [optNumVal, Ty.ser] at hs; subst hs; simp
  | some n =>
    simp [optNumVal, Ty.ser, serTagged, leafEnc, LenKind.ser, tagPrefix] at hs
    subst hs
    have := C17.tag_shape tg
    simp only [List.length_append, leBytes_length]
    split at this <;> omega

/-- an optional tagged BCD number in a fixed-width field (e.g. BMP 29 terminal id, BMP 49 currency). -/
theorem tf_opt_bcd_fixed (name : String) (tg N w : Nat) (hrep : tagRepresentable tg) (o : Option Nat)
    (ho : ∀ n, o = some n → n < 256 ^ w ∧ n < 100 ^ N) :
    ∃ q : TF, q.OK ∧ q.f = .mk name (some tg) (.fixed N) .bcd (.opt (.int w)) ∧ q.t = tg ∧
      q.v = optNumVal o ∧ q.bytes.length ≤ 2 + N := by
  have hwf : Ty.wf (.opt (.int w)) (.fixed N) .bcd (some tg) = true := by
    simp [Ty.wf, Ty.plain, leafWf, leafShape, tagOK, leafLenOK, hrep]
  have hlen : ∀ n, o = some n → (bcdEncK n).length ≤ N := fun n h => by
    rw [bcdEncK_eq]; exact bcdEnc_length_le N n (ho n h).2
  have hc : Ty.canon (.opt (.int w)) (.fixed N) .bcd (some tg) (optNumVal o) := by
    cases o with
    | none => simp [optNumVal, Ty.canon]
    | some n => simp only [optNumVal, Ty.canon]; exact ⟨_, rfl, hlen n rfl, (ho n rfl).1⟩
  obtain ⟨bytes, hrt⟩ := Ty.rt _ _ _ _ _ hwf hc
  refine ⟨_, TF.ok_of_fieldRT name tg _ _ _ _ _ hrt (by simp [Ty.follow, leafFollow, LenKind.delim]), rfl, rfl, rfl, ?_⟩
  -- the bytes written: nothing, or the tag and `N` bytes
  have hs := hrt.ser
  cases o with
  | none => simp [optNumVal, Ty.ser] at hs; subst hs; simp
  | some n =>
    simp [optNumVal, Ty.ser, serTagged, leafEnc, LenKind.ser, tagPrefix, hlen n rfl] at hs
    subst hs
    have hl := hlen n rfl
    have := C17.tag_shape tg
    simp only [List.length_append, List.length_replicate]
    split at this <;> omega

/-- **`CompletionData` (06 0F), for every value**: result code and status byte 0..255, terminal id up to 8
digits, currency up to 4 digits, each present or absent — `zvt_deserialize (zvt_serialize v ++ x) = (v, x)`
for arbitrary trailing bytes `x`. Obtained from the generic theorems alone. -/
theorem completionData_roundtrip (rc sb tid cur : Option Nat)
    (h1 : ∀ n, rc = some n → n < 256) (h2 : ∀ n, sb = some n → n < 256)
    (h3 : ∀ n, tid = some n → n < 10 ^ 8) (h4 : ∀ n, cur = some n → n < 10 ^ 4) (x : Bytes) :
    ∃ bytes, encodeCmd Generated.packets_CompletionData (.struct [optNumVal rc, optNumVal sb, optNumVal tid, optNumVal cur]) = .ok bytes ∧
      decodeCmd Generated.packets_CompletionData (bytes ++ x) = .ok (.struct [optNumVal rc, optNumVal sb, optNumVal tid, optNumVal cur], x) := by
  obtain ⟨q0, ok0, f0, t0, v0, l0⟩ := tf_opt_int "result_code" 0x27 1 (by decide) rc (fun n h => by have := h1 n h; omega)
  obtain ⟨q1, ok1, f1, t1, v1, l1⟩ := tf_opt_int "status_byte" 0x19 1 (by decide) sb (fun n h => by have := h2 n h; omega)
  obtain ⟨q2, ok2, f2, t2, v2, l2⟩ := tf_opt_bcd_fixed "terminal_id" 0x29 4 8 (by decide) tid
    (fun n h => by have := h3 n h; constructor <;> omega)
  obtain ⟨q3, ok3, f3, t3, v3, l3⟩ := tf_opt_bcd_fixed "currency" 0x49 2 8 (by decide) cur
    (fun n h => by have := h4 n h; constructor <;> omega)
  have := command_roundtrip Generated.packets_CompletionData 6 15 rfl (by decide) (by decide) [] [q0, q1, q2, q3]
    (by simp [Generated.packets_CompletionData, f0, f1, f2, f3])
    (by simp) (by intro q hq; simp at hq; rcases hq with rfl | rfl | rfl | rfl <;> assumption)
    (by simp [t0, t1, t2, t3])
    (by simp; omega) x
  simpa [v0, v1, v2, v3] using this

/-- a concrete instance evaluated by the kernel (the completion the terminal sends after registration). -/
example : (decodeCmd Generated.packets_CompletionData [0x06, 0x0f, 0x0c, 0x27, 0x00, 0x29, 0x52, 0x52, 0x35, 0x35, 0x49, 0x09, 0x78, 0x19, 0x00, 0xaa]).isOkVal
    (.struct [.some (.num 0), .some (.num 0), .some (.num 52523535), .some (.num 978)]) [0xaa] = true := by decide +kernel

/-! ### the full statement -/

/-- every shipped packet type is well-formed — decided by the kernel on the schema regenerated from the source. -/
theorem shipped_wf : ∀ s ∈ Generated.shipped, structWf s = true := by decide +kernel

/-- **C01, every well-formed schema** (also the generic half of C12). -/
theorem wellformed_roundtrip (s : StructDef) (hwf : structWf s = true) (v : Val) (hc : s.canon v) :
    ∃ bytes, encodeCmd s v = .ok bytes ∧ decodeCmd s bytes = .ok (v, []) ∧
      (s.ctrl.isSome = true → ∀ x, decodeCmd s (bytes ++ x) = .ok (v, x)) :=
  packet_roundtrip s hwf v hc

/-- **C01, all shipped types, all canonical values**: `zvt_deserialize (zvt_serialize v) = (v, nothing left)`,
and for the command types (those with a control field) any bytes behind the packet are handed back untouched. -/
theorem all_shipped_roundtrip (s : StructDef) (hs : s ∈ Generated.shipped) (v : Val) (hc : s.canon v) :
    ∃ bytes, encodeCmd s v = .ok bytes ∧ decodeCmd s bytes = .ok (v, []) ∧
      (s.ctrl.isSome = true → ∀ x, decodeCmd s (bytes ++ x) = .ok (v, x)) :=
  packet_roundtrip s (shipped_wf s hs) v hc

/-- the domain is inhabited by non-trivial values: a registration with password, config byte, currency and a
TLV container carrying the maximal APDU length is canonical … -/
theorem registration_example_canon : Generated.packets_Registration.canon
    (.struct [.num 123456, .num 0xde, .some (.num 978), .some (.struct [.some (.num 1024)])]) := by
  refine ⟨_, rfl, ?_, ?_⟩
  · -- the clauses for absent positional optionals are void here: `reduceCtorEq` refutes their premises
    simp only [Generated.packets_Registration, Generated.packets_tlv_Registration, fieldsCanon, Ty.canon, reduceCtorEq,
      false_implies, implies_true, and_true]
    refine ⟨⟨_, rfl, ?_, by decide⟩, ⟨_, rfl, trivial, by decide⟩, ⟨_, rfl, ?_, by decide⟩, ⟨_, rfl, ?_, by decide⟩, ?_⟩
    · show (bcdEncK 123456).length ≤ 3; decide +kernel
    · show (bcdEncK 978).length ≤ 2; decide +kernel
    · show (beBytes 2 1024).length ≤ 65535; decide +kernel
    · intro p hp
      have : encFields [Field.mk "max_len_adpu" (some 0x1a) .tlv .bigEndian (.opt (.int 2))] [.some (.num 1024)] =
          .ok [0x1a, 0x02, 0x04, 0x00] := by decide +kernel
      rw [this] at hp; cases hp
      show (4 : Nat) ≤ 65535; decide
  · intro p hp
    have : encFields Generated.packets_Registration.fields
        [.num 123456, .num 0xde, .some (.num 978), .some (.struct [.some (.num 1024)])] =
        .ok [0x12, 0x34, 0x56, 0xde, 0x09, 0x78, 0x06, 0x04, 0x1a, 0x02, 0x04, 0x00] := by decide +kernel
    rw [this] at hp; cases hp; decide

theorem registration_shipped : Generated.packets_Registration ∈ Generated.shipped := by
  unfold Generated.shipped; simp

/-- … and the theorem applies to it. -/
example : ∃ bytes, encodeCmd Generated.packets_Registration
      (.struct [.num 123456, .num 0xde, .some (.num 978), .some (.struct [.some (.num 1024)])]) = .ok bytes ∧
    ∀ x, decodeCmd Generated.packets_Registration (bytes ++ x) =
      .ok (.struct [.num 123456, .num 0xde, .some (.num 978), .some (.struct [.some (.num 1024)])], x) := by
  obtain ⟨bytes, h1, _, h3⟩ := all_shipped_roundtrip Generated.packets_Registration registration_shipped _ registration_example_canon
  exact ⟨bytes, h1, h3 rfl⟩

/-- an ABSENT positional optional that is canonical: a registration without currency (and without TLV
container) — nothing follows the missing field, so its decoder finds nothing to read … -/
theorem registration_absent_currency_canon : Generated.packets_Registration.canon
    (.struct [.num 123456, .num 0xde, .none, .none]) := by
  refine ⟨_, rfl, ?_, ?_⟩
  · simp only [Generated.packets_Registration, Generated.packets_tlv_Registration, fieldsCanon, Ty.canon, reduceCtorEq,
      false_implies, implies_true, and_true, true_and, forall_const]
    refine ⟨⟨_, rfl, by show (bcdEncK 123456).length ≤ 3; decide +kernel, by decide⟩, ⟨_, rfl, trivial, by decide⟩, ?_⟩
    · intro p hp
      have : encFields [Field.mk "tlv" (some 0x6) .tlv .dflt (.opt (.struct [Field.mk "max_len_adpu" (some 0x1a) .tlv .bigEndian (.opt (.int 2))]))]
          [.none] = .ok [] := by decide +kernel
      rw [this] at hp
      have hp' : p = [] := (Except.ok.inj hp).symm
      subst hp'
      rfl
  · intro p hp
    have : encFields Generated.packets_Registration.fields [.num 123456, .num 0xde, .none, .none] =
        .ok [0x12, 0x34, 0x56, 0xde] := by decide +kernel
    rw [this] at hp; cases hp; decide

/-- … and the theorem applies: `06 00 04 12 34 56 DE` is read back without a currency, whatever follows the packet. -/
example : ∃ bytes, encodeCmd Generated.packets_Registration (.struct [.num 123456, .num 0xde, .none, .none]) = .ok bytes ∧
    ∀ x, decodeCmd Generated.packets_Registration (bytes ++ x) = .ok (.struct [.num 123456, .num 0xde, .none, .none], x) := by
  obtain ⟨bytes, h1, _, h3⟩ := all_shipped_roundtrip Generated.packets_Registration registration_shipped _ registration_absent_currency_canon
  exact ⟨bytes, h1, h3 rfl⟩

/-- an absent positional optional that is NOT canonical: `StatusEnquiry {password: None, service_byte: Some(5),
tlv: Some(..)}` is written without any marker for the missing password and read back with the password 030506
(and no service byte) — the wire format cannot carry this value, and `StructDef.canon` excludes it. -/
theorem statusEnquiry_absent_password_not_canonical :
    encodeCmd Generated.packets_StatusEnquiry (.struct [.none, .some (.num 5), .some (.struct [.some (.num 7)])]) =
      .ok [0x05, 0x01, 0x08, 0x03, 0x05, 0x06, 0x04, 0x1f, 0xf2, 0x01, 0x07] ∧
    (decodeCmd Generated.packets_StatusEnquiry [0x05, 0x01, 0x08, 0x03, 0x05, 0x06, 0x04, 0x1f, 0xf2, 0x01, 0x07]).isOkVal
      (.struct [.some (.num 30506), .none, .none]) [0x04, 0x1f, 0xf2, 0x01, 0x07] = true ∧
    ¬ Generated.packets_StatusEnquiry.canon (.struct [.none, .some (.num 5), .some (.struct [.some (.num 7)])]) := by
  refine ⟨by decide +kernel, by decide +kernel, ?_⟩
  rintro ⟨vs, hv, hfc, _⟩
  cases hv
  simp only [Generated.packets_StatusEnquiry, Generated.packets_tlv_StatusEnquiry, fieldsCanon] at hfc
  have habs := hfc.2.2 (by trivial) (by trivial) [0x03, 0x05, 0x06, 0x04, 0x1f, 0xf2, 0x01, 0x07] (by decide +kernel)
  have hreal : (Ty.de (.opt (.int 8)) (.fixed 3) .bcd none [0x03, 0x05, 0x06, 0x04, 0x1f, 0xf2, 0x01, 0x07]).isOkVal
      (.some (.num 30506)) [0x04, 0x1f, 0xf2, 0x01, 0x07] = true := by decide +kernel
  rw [habs] at hreal
  simp [Res.isOkVal, Val.beq] at hreal

end Zvt.C01
