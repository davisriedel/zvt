/-
  C05 — command sequences acknowledge every packet once and stop at the final packet.

  On the sequence model (Sequence.lean): the exchange on a well-formed reply script, event by event (`seq_wellformed`).
  The table obligations: the sequence table translated on this run contains the specification's, every entry is of a
  modelled kind, every final name exists. The same shape for the firmware upload loop of WriteFile.lean, which answers
  with data blocks instead of acknowledgements (`wfLoop_shape`). At the client's own stream: Properties/C06C.lean.
-/
import ZvtVerif.Properties.C06
import ZvtVerif.Spec.Layout
import ZvtVerif.WriteFile
namespace Zvt.C05
open C06

/-- a reply packet as the terminal sends it, with what the reply parser makes of it. -/
structure Reply where
  bytes : Bytes
  idx : Nat
  val : Val

/-- `p` is exactly one APDU: whatever follows it, the reader frames `p` and leaves the rest. -/
def WellFramed (p : Bytes) : Prop := ∀ x, readFrame (p ++ x) = .packet p x

/-- the stream of items still to come: non-final replies, then the final reply with arbitrary bytes glued behind it. -/
def script (ps : List Reply) (f : Reply) (junk : Bytes) : List Bytes :=
  ps.map (·.bytes) ++ [f.bytes ++ junk]

theorem script_cons (p : Reply) (ps : List Reply) (f : Reply) (junk : Bytes) :
    script (p :: ps) f junk = p.bytes :: script ps f junk := rfl

theorem script_eq_cons (ps : List Reply) (f : Reply) (junk : Bytes) : ∃ hd tl, script ps f junk = hd :: tl := by
  cases ps <;> exact ⟨_, _, rfl⟩

/-- **one round on a decodable packet**: it is read alone (not a byte of `x`), acknowledged and yielded; then the
loop stops, or the terminal releases its next item and the loop goes on. -/
theorem seqLoop_round (e : EnumDef) (isFinal : Nat → Bool) (once : Bool) (fuel : Nat) (p x : Bytes) (i : Nat) (v : Val)
    (items : List Bytes) (c : Bool) (hw : WellFramed p) (hp : parseEnum e p = .ok (i, v)) :
    seqLoop e isFinal once (fuel + 1) { avail := p ++ x, items := items, closed := c } =
      .r p.length :: .w ackBytes :: .y i v ::
        if once = true ∨ isFinal i = true then [.fin]
        else seqLoop e isFinal once fuel (Term.release { avail := x, items := items, closed := c }) := by
  simp only [seqLoop, Term.readPkt, hw x, hp]
  split <;> rfl

/-- the reply loop on a well-formed script, started with the first item already delivered. -/
theorem seqLoop_wellformed (e : EnumDef) (finals : List String) (f : Reply) (junk : Bytes)
    (hf : WellFramed f.bytes ∧ parseEnum e f.bytes = .ok (f.idx, f.val) ∧ isFinalOf e finals f.idx = true) :
    ∀ (ps : List Reply) (fuel : Nat) (hd : Bytes) (tl : List Bytes) (c : Bool),
      (∀ p ∈ ps, WellFramed p.bytes ∧ parseEnum e p.bytes = .ok (p.idx, p.val) ∧ isFinalOf e finals p.idx = false) →
      ps.length < fuel → hd :: tl = script ps f junk →
      seqLoop e (isFinalOf e finals) false fuel { avail := hd, items := tl, closed := c } =
        rounds (ps.map fun p => (p.bytes.length, p.idx, p.val)) ++ [.r f.bytes.length, .w ackBytes, .y f.idx f.val, .fin] := by
  intro ps
  induction ps with
  | nil =>
    intro fuel hd tl c _ hfuel hs
    obtain ⟨k, rfl⟩ : ∃ k, fuel = k + 1 := ⟨fuel - 1, by omega⟩
    cases hs
    simp [seqLoop_round (hw := hf.1) (hp := hf.2.1), hf.2.2, rounds]
  | cons p ps ih =>
    intro fuel hd tl c hps hfuel hs
    obtain ⟨k, rfl⟩ : ∃ k, fuel = k + 1 := ⟨fuel - 1, by omega⟩
    rw [script_cons] at hs
    cases hs
    have hp := hps p (by simp)
    -- after the acknowledgement the terminal releases the next item
    obtain ⟨hd', tl', hs'⟩ := script_eq_cons ps f junk
    have := seqLoop_round e (isFinalOf e finals) false k p.bytes [] p.idx p.val (script ps f junk) c hp.1 hp.2.1
    rw [List.append_nil] at this
    rw [this]
    simp [hp.2.2, rounds, Term.release, hs',
      ih k hd' tl' tl'.isEmpty (fun q hq => hps q (by simp [hq])) (by simpa using hfuel) hs'.symm]

/-- **Well-formed exchange.** For every loop sequence, command, acknowledgement, any number of decodable
non-final replies, a final reply and ARBITRARY bytes queued behind it: the command is written once, the
acknowledgement is read, every reply is read, answered with exactly one `80 00 00` and then yielded, in
arrival order; the exchange ends right after the first final packet; not one byte of `junk` is read. -/
theorem seq_wellformed (e : EnumDef) (finals : List String) (cmd ack : Bytes) (ps : List Reply) (f : Reply) (junk : Bytes)
    (hack : WellFramed ack) (hackp : ∃ iv, parseEnum Generated.io_Ack ack = .ok iv)
    (hps : ∀ p ∈ ps, WellFramed p.bytes ∧ parseEnum e p.bytes = .ok (p.idx, p.val) ∧ isFinalOf e finals p.idx = false)
    (hf : WellFramed f.bytes ∧ parseEnum e f.bytes = .ok (f.idx, f.val) ∧ isFinalOf e finals f.idx = true) :
    runSeq e false finals cmd (ack :: script ps f junk) =
      .w cmd :: .r ack.length ::
        (rounds (ps.map fun p => (p.bytes.length, p.idx, p.val)) ++ [.r f.bytes.length, .w ackBytes, .y f.idx f.val, .fin]) := by
  obtain ⟨iv, hiv⟩ := hackp
  obtain ⟨hd, tl, hs⟩ := script_eq_cons ps f junk
  -- the fuel `runSeq` gives the reply loop, two more than there are items, is more than there are replies
  have hfuel : (ack :: script ps f junk).length + 2 = ps.length + 4 := by simp [script]
  have hloop := fun c => seqLoop_wellformed e finals f junk hf ps (ps.length + 4) hd tl c hps (by omega) hs.symm
  unfold runSeq writeWithAck
  rw [hfuel]
  simp only [Term.start, Term.release, hs, List.nil_append, Term.readPkt, hack hd, hiv, hloop]
  simp

/-- bytes consumed from the connection = acknowledgement + the replies up to and including the final one. -/
def consumed : List Ev → Nat
  | [] => 0
  | .r n :: r => n + consumed r
  | _ :: r => consumed r

theorem consumed_rounds (rs : List (Nat × Nat × Val)) (tail : List Ev) :
    consumed (rounds rs ++ tail) = (rs.map (·.1)).sum + consumed tail := by
  induction rs with
  | nil => simp [rounds]
  | cons r rs ih => obtain ⟨n, i, v⟩ := r; simp [rounds, consumed, ih]; omega

/-- the table of exchanges translated from the `impl Sequence` blocks on this run — input packet, reply
enum, kind (`once` / standard `loop`, recognised token by token) and the set of final packets — contains every
exchange of the specification (Appendix A of DESIGN.md) unchanged; exchanges the source adds on top are covered by
`generated_sequences_covered` below. -/
theorem sequences_cover_spec : Spec.sequences.all (fun s => Generated.sequences.contains s) = true :=
  -- as for the packet tables (`C03.shipped_sublist`): one pass through the two literals, equal entries unify
  have sub : Spec.sequences.Sublist Generated.sequences := by
    unfold Spec.sequences Generated.sequences
    repeat first | exact .slnil | apply List.Sublist.cons_cons | apply List.Sublist.cons
  List.all_eq_true.mpr fun _ hs => List.contains_iff_mem.mpr (sub.subset hs)

/-- every `impl Sequence` the translator found is of a modelled kind (`once` or the standard `loop`). -/
theorem generated_sequences_covered :
    Generated.sequences.all (fun s => s.2.2.2.1 == "once" || s.2.2.2.1 == "loop") = true := by decide +kernel

/-- … and every final-variant name is a variant of the sequence's reply enum (no dangling name). -/
theorem generated_finals_exist :
    Generated.sequences.all (fun s => match Generated.enums.find? (·.name == s.2.2.1) with
      | some e => s.2.2.2.2.all (fun f => e.variants.any (·.1 == f))
      | none => false) = true := by decide +kernel

/-! ### the firmware upload loop (`WriteFile::into_stream`) -/

/-- rounds of the upload: read a packet (n bytes), answer it with exactly one packet — the data block —, hand it
to the caller. -/
def wfRounds : List (Nat × Bytes × Nat × Val) → List Ev
  | [] => []
  | (n, pkt, i, v) :: rs => .r n :: .w pkt :: .y i v :: wfRounds rs

/-- **Every** run of the upload loop — whatever the terminal sends — is a sequence of rounds in each of which the
one packet written is the data block the request asks for (`wfDecide … = .data pkt`: requested file id, requested
offset, `wfBlock` of that file — C11), followed by one closing: a final packet answered with one acknowledgement
and yielded, or exactly one error (after which nothing is written), or silence. -/
theorem wfLoop_shape (files : List (Nat × Bytes)) (block : Nat) :
    ∀ (fuel : Nat) (t : Term), ∃ rs tail, wfLoop files block fuel t = wfRounds rs ++ tail ∧
      (∀ r ∈ rs, wfDecide files block r.2.2.1 r.2.2.2 = .data r.2.1) ∧
      (Closing tail ∨ ∃ n i v, tail = [.r n, .w ackBytes, .y i v, .fin] ∧ wfDecide files block i v = .finish) := by
  intro fuel
  induction fuel with
  | zero => intro t; exact ⟨[], [.hang], rfl, nofun, Or.inl .hang⟩
  | succ fuel ih =>
    intro t
    simp only [wfLoop]
    rcases readPkt_evs t with ⟨p, t', n, h⟩ | ⟨t', h⟩ | ⟨t', n, h⟩ | ⟨t', h⟩
    · rw [h]; simp only
      cases parseEnum wfEnum p with
      | error er => exact ⟨[], [.r n, .e (errName er), .fin], rfl, nofun, Or.inl (.rerr n _)⟩
      | ok iv =>
        obtain ⟨i, v⟩ := iv
        simp only
        cases hdec : wfDecide files block i v with
        | finish => exact ⟨[], [.r n, .w ackBytes, .y i v, .fin], rfl, nofun, Or.inr ⟨n, i, v, rfl, hdec⟩⟩
        | fail => exact ⟨[], [.r n, .e "incomplete", .fin], rfl, nofun, Or.inl (.rerr n _)⟩
        | data pkt =>
          obtain ⟨rs, tail, heq, hall, hc⟩ := ih t'.release
          refine ⟨(n, pkt, i, v) :: rs, tail, by simp [heq, wfRounds], ?_, hc⟩
          intro r hr
          simp only [List.mem_cons] at hr
          rcases hr with rfl | hr
          · exact hdec
          · exact hall r hr
    · rw [h]; exact ⟨[], [.e "io:eof", .fin], rfl, nofun, Or.inl (.err _)⟩
    · rw [h]; exact ⟨[], [.r n, .e "io:eof", .fin], rfl, nofun, Or.inl (.rerr n _)⟩
    · rw [h]; exact ⟨[], [.hang], rfl, nofun, Or.inl .hang⟩

end Zvt.C05
