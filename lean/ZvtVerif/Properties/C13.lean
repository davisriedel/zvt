/-
  C13 — tagged fields: any order accepted, duplicates and missing fields reported.

  Foreign tag, duplicate and any order come from one loop invariant (Proofs/TagLoop.lean). They are stated for an
  ARBITRARY struct definition and arbitrary arms (`arm` = the `match tag.0 { … }` of the generated code),
  over sequences of *groups* = encoded tagged fields that decode exactly whatever follows them
  (`GroupOK`; for the fields of well-formed structs this is the field-level round trip of C01 together
  with the suffix law of C14). Missing fields (`missing_reported`, `none_missing_accepted`) are about `finish` alone:
  what the generated code makes of the loop's result, whatever loop produced it.
-/
import ZvtVerif.Proofs.TagLoop
namespace Zvt.C13

/-! ### what the loop does on groups ++ tail -/

/-- **Foreign tag.** A tag the struct does not know, behind any sequence of groups, stops the loop: the
fields decoded so far are exactly those of the groups before it, and everything from the unknown tag on
is handed back untouched. -/
theorem loop_foreign_tag (arm : Arm) (gs : List Group) (fuel currLen : Nat) (tail : Bytes) (u : Nat) (r : Bytes)
    (acc : List (Nat × Val)) (seen : List Nat)
    (hok : ∀ g ∈ gs, GroupOK arm g) (hnd : (gs.map (·.t)).Nodup) (hns : ∀ g ∈ gs, g.t ∉ seen)
    (hcl : gs ≠ [] → currLen ≠ (flat gs ++ tail).length) (hcl0 : gs = [] → currLen ≠ tail.length)
    (htag : tagDecDefault tail = .ok (u, r)) (hunk : arm u tail = none) (hfor : ∀ g ∈ gs, g.t ≠ u) :
    tagLoop arm (gs.length + (fuel + 1)) currLen (flat gs ++ tail) acc seen = .ok (results gs acc, tagsOf gs seen, tail) := by
  -- (`hcl0` is not needed: with `curr_len` equal to what is left the loop stops all the same.)
  have hu : ∀ t r', tagDecDefault tail = .ok (t, r') → t = u := by
    intro t r' h; rw [htag] at h; cases h; rfl
  refine loop_groups_stops arm gs fuel currLen tail acc seen hok hnd hns hcl ?_ (fun t r' h => by rw [hu t r' h]; exact hunk)
  exact fun g hg => Or.inr fun r' h => hfor g (List.mem_of_getLast? hg) (hu _ r' h)

/-- **Duplicate.** A second group with a tag that was already consumed — wherever it stands — is rejected
with `DuplicateTag` naming that tag, before its content is even looked at. (`hlast`: the group just before
the duplicate may be followed by it — always so for a single field; the elements of a `Vec` field that stand
next to each other form ONE group, so a duplicate of a `Vec` group is one that is separated from it.) -/
theorem loop_duplicate (arm : Arm) (gs : List Group) (fuel currLen : Nat) (tail : Bytes) (t : Nat) (r : Bytes)
    (idx : Nat) (res : Res (Val × Bytes)) (acc : List (Nat × Val)) (seen : List Nat)
    (hok : ∀ g ∈ gs, GroupOK arm g) (hnd : (gs.map (·.t)).Nodup) (hns : ∀ g ∈ gs, g.t ∉ seen)
    (hcl : gs ≠ [] → currLen ≠ (flat gs ++ tail).length) (hcl0 : gs = [] → currLen ≠ tail.length)
    (htag : tagDecDefault tail = .ok (t, r)) (harm : arm t tail = some (idx, res)) (hdup : t ∈ tagsOf gs seen)
    (hlast : ∀ g, gs.getLast? = some g → g.Follows tail) :
    tagLoop arm (gs.length + (fuel + 1)) currLen (flat gs ++ tail) acc seen = .error (.duplicateTag t) := by
  rw [tagLoop_groups arm gs (fuel + 1) currLen tail acc seen hok hnd hns hcl hlast]
  have hne : tail ≠ [] := by intro h; subst h; simp [tagDecDefault] at htag
  have hl : lastLen gs tail currLen ≠ tail.length := by
    cases gs with
    | nil => simpa [lastLen] using hcl0 rfl
    | cons g gs' => exact lastLen_ne _ _ _ (by simp) (fun x hx => (hok x hx).1)
  simp only [tagLoop]
  have : ¬ (tail.isEmpty = true ∨ lastLen gs tail currLen = tail.length) := by
    rintro (h | h)
    · exact hne (List.isEmpty_iff.mp h)
    · exact hl h
  have hc : (tagsOf gs seen).contains t = true := by simpa using hdup
  simp only [this, if_false, htag, harm, hc, if_true]

/-! ### order independence of what is assembled from the loop's result -/

/-- under pairwise distinct keys the first hit is the only one: look-up is membership. -/
theorem lookupIdx_eq_some_iff {l : List (Nat × Val)} (hnd : (l.map (·.1)).Nodup) (i : Nat) (v : Val) :
    lookupIdx i l = some v ↔ (i, v) ∈ l := by
  induction l with
  | nil => simp [lookupIdx]
  | cons x l ih =>
    obtain ⟨j, w⟩ := x
    simp only [List.map_cons, List.nodup_cons] at hnd
    simp only [lookupIdx, List.mem_cons, Prod.mk.injEq]
    split
    next h =>
      subst h
      have : (i, v) ∉ l := fun hm => hnd.1 (List.mem_map_of_mem (f := (·.1)) hm)
      simp [this, eq_comm]
    next h => simp [h, ih hnd.2]

theorem lookupIdx_perm (i : Nat) : ∀ {l l' : List (Nat × Val)}, l.Perm l' → (l.map (·.1)).Nodup →
    lookupIdx i l = lookupIdx i l' := by
  intro l l' hp hnd
  apply Option.ext; intro v
  rw [lookupIdx_eq_some_iff hnd, lookupIdx_eq_some_iff ((hp.map _).nodup_iff.mp hnd), hp.mem_iff]

theorem assemble_congr : ∀ (fs : List Field) (pvals : List Val) (acc acc' : List (Nat × Val)) (i : Nat),
    (∀ j, lookupIdx j acc = lookupIdx j acc') → assemble fs pvals acc i = assemble fs pvals acc' i := by
  intro fs
  induction fs with
  | nil => intro _ _ _ _ _; rfl
  | cons f fs ih =>
    intro pvals acc acc' i h
    simp only [assemble]
    cases f.tag with
    | none =>
      simp only
      cases pvals with
      | nil => simp only; rw [ih [] acc acc' (i + 1) h]
      | cons p ps => simp only; rw [ih ps acc acc' (i + 1) h]
    | some t => simp only; rw [h i, ih pvals acc acc' (i + 1) h]

theorem results_perm {gs gs' : List Group} (hp : gs.Perm gs') : (results gs []).Perm (results gs' []) := by
  simp only [results, List.append_nil]
  exact (List.reverse_perm _).trans ((List.Perm.map _ hp).trans (List.reverse_perm _).symm)

theorem results_keys_nodup {gs : List Group} (h : (gs.map (·.idx)).Nodup) : ((results gs []).map (·.1)).Nodup := by
  simpa [results, Function.comp_def] using (List.reverse_perm _).nodup_iff.mpr h

theorem tags_contains_perm {gs gs' : List Group} (hp : gs.Perm gs') (t : Nat) :
    (tagsOf gs []).contains t = (tagsOf gs' []).contains t := by
  simp [tagsOf, hp.mem_iff]

/-! ### the generated `decode` on (positional prefix) ++ (groups) -/

/-- value or missing-tags error computed from the loop's result. -/
def finish (fs : List Field) (pvals : List Val) (acc : List (Nat × Val)) (seen : List Nat) (rest : Bytes) : Res (Val × Bytes) :=
  let missing := sortDedup ((requiredTags fs).filter (fun t => ! seen.contains t))
  if missing.isEmpty then .ok (.struct (assemble fs pvals acc 0), rest) else .error (.missing missing)

/-- the whole struct decoder on a positional prefix followed by groups with pairwise distinct tags and a tail on
which the loop stops (the prefix only has to be read back in front of exactly these bytes). -/
theorem decode_groups_tail (decPosF : Bytes → Res (List Val × Bytes)) (arm : Arm) (fs : List Field)
    (pos : Bytes) (pvals : List Val) (gs : List Group) (tail : Bytes)
    (hpos : decPosF (pos ++ (flat gs ++ tail)) = .ok (pvals, flat gs ++ tail))
    (hok : ∀ g ∈ gs, GroupOK arm g) (hnd : (gs.map (·.t)).Nodup)
    (hlast : ∀ g, gs.getLast? = some g → g.Follows tail) (hstop : Stops arm tail) :
    decStructWith decPosF arm fs (pos ++ (flat gs ++ tail)) = finish fs pvals (results gs []) (tagsOf gs []) tail := by
  unfold decStructWith finish
  rw [hpos]
  simp only
  have hfuel : (flat gs ++ tail).length + 2 = gs.length + (((flat gs ++ tail).length + 1 - gs.length) + 1) := by
    have := length_le_flat arm gs hok
    simp only [List.length_append]; omega
  rw [hfuel, loop_groups_stops arm gs _ _ tail [] [] hok hnd (by simp) (by intro _; omega) hlast hstop]

/-- … in particular when nothing follows the groups. -/
theorem decode_groups_at (decPosF : Bytes → Res (List Val × Bytes)) (arm : Arm) (fs : List Field)
    (pos : Bytes) (pvals : List Val) (gs : List Group) (hpos : decPosF (pos ++ flat gs) = .ok (pvals, flat gs))
    (hok : ∀ g ∈ gs, GroupOK arm g) (hnd : (gs.map (·.t)).Nodup) :
    decStructWith decPosF arm fs (pos ++ flat gs) = finish fs pvals (results gs []) (tagsOf gs []) [] := by
  have := decode_groups_tail decPosF arm fs pos pvals gs [] (by simpa using hpos) hok hnd
    (fun g _ => Or.inr (noStart_nil g.t)) (stops_nil arm)
  simpa using this

/-- the same when the positional prefix is read back in front of anything. -/
theorem decode_groups (decPosF : Bytes → Res (List Val × Bytes)) (arm : Arm) (fs : List Field)
    (pos : Bytes) (pvals : List Val) (hpos : ∀ x, decPosF (pos ++ x) = .ok (pvals, x))
    (gs : List Group) (hok : ∀ g ∈ gs, GroupOK arm g) (hnd : (gs.map (·.t)).Nodup) :
    decStructWith decPosF arm fs (pos ++ flat gs) = finish fs pvals (results gs []) (tagsOf gs []) [] :=
  decode_groups_at decPosF arm fs pos pvals gs (hpos (flat gs)) hok hnd

/-- **Any order.** Two arrangements of the same groups decode to the same result: same value, no bytes
left over — or the same error. -/
theorem perm_invariant (decPosF : Bytes → Res (List Val × Bytes)) (arm : Arm) (fs : List Field)
    (pos : Bytes) (pvals : List Val) (hpos : ∀ x, decPosF (pos ++ x) = .ok (pvals, x))
    (gs gs' : List Group) (hp : gs.Perm gs') (hok : ∀ g ∈ gs, GroupOK arm g)
    (hnd : (gs.map (·.t)).Nodup) (hni : (gs.map (·.idx)).Nodup) :
    decStructWith decPosF arm fs (pos ++ flat gs) = decStructWith decPosF arm fs (pos ++ flat gs') := by
  have hok' : ∀ g ∈ gs', GroupOK arm g := fun g hg => hok g (hp.mem_iff.mpr hg)
  have hnd' : (gs'.map (·.t)).Nodup := (List.Perm.nodup_iff (List.Perm.map _ hp)).mp hnd
  rw [decode_groups decPosF arm fs pos pvals hpos gs hok hnd, decode_groups decPosF arm fs pos pvals hpos gs' hok' hnd']
  unfold finish
  have hseen : (fun t => ! (tagsOf gs []).contains t) = (fun t => ! (tagsOf gs' []).contains t) := by
    funext t; rw [tags_contains_perm hp t]
  have hass : assemble fs pvals (results gs []) 0 = assemble fs pvals (results gs' []) 0 :=
    assemble_congr fs pvals _ _ 0 (fun j => lookupIdx_perm j (results_perm hp) (results_keys_nodup hni))
  rw [hseen, hass]

/-! ### missing mandatory fields: all of them, sorted -/

theorem mem_insertSorted (x y : Nat) (l : List Nat) : y ∈ insertSorted x l ↔ y = x ∨ y ∈ l := by
  induction l with
  | nil => simp [insertSorted]
  | cons a l ih => simp only [insertSorted]; grind

theorem mem_sortDedup (y : Nat) (l : List Nat) : y ∈ sortDedup l ↔ y ∈ l := by
  unfold sortDedup
  induction l with
  | nil => simp
  | cons a l ih => simp [mem_insertSorted, ih]

def StrictSorted : List Nat → Prop
  | [] => True
  | [_] => True
  | a :: b :: r => a < b ∧ StrictSorted (b :: r)

theorem insertSorted_sorted (x : Nat) (l : List Nat) (h : StrictSorted l) : StrictSorted (insertSorted x l) := by
  induction l with
  | nil => simp [insertSorted, StrictSorted]
  | cons a l ih =>
    -- only the first two elements matter: unfold `insertSorted` once more on the tail, then compare
    cases l with
    | nil => simp only [insertSorted]; grind [StrictSorted]
    | cons b r => have := ih h.2; simp only [insertSorted] at this ⊢; grind [StrictSorted]

theorem sortDedup_sorted (l : List Nat) : StrictSorted (sortDedup l) := by
  unfold sortDedup
  induction l with
  | nil => simp [StrictSorted]
  | cons a l ih => exact insertSorted_sorted a _ ih

/-- **Missing.** When mandatory tagged fields are absent the error names exactly the mandatory tags that did
not occur — all of them — in strictly increasing order. -/
theorem missing_reported (fs : List Field) (pvals : List Val) (acc : List (Nat × Val)) (seen : List Nat) (rest : Bytes)
    (t : Nat) (ht : t ∈ requiredTags fs) (hs : t ∉ seen) :
    ∃ m, finish fs pvals acc seen rest = .error (.missing m) ∧ StrictSorted m ∧
      ∀ y, y ∈ m ↔ (y ∈ requiredTags fs ∧ y ∉ seen) := by
  refine ⟨sortDedup ((requiredTags fs).filter (fun t => ! seen.contains t)), ?_, sortDedup_sorted _, ?_⟩
  · unfold finish
    simp only
    have hm : t ∈ sortDedup ((requiredTags fs).filter (fun t => ! seen.contains t)) := by
      rw [mem_sortDedup]; simp [ht, hs]
    have : (sortDedup ((requiredTags fs).filter (fun t => ! seen.contains t))).isEmpty = false := by
      cases hh : sortDedup ((requiredTags fs).filter (fun t => ! seen.contains t)) with
      | nil => rw [hh] at hm; simp at hm
      | cons a l => rfl
    simp only [this, Bool.false_eq_true, if_false]
  · intro y; rw [mem_sortDedup]; simp

/-- … and when none is missing the packet is accepted. -/
theorem none_missing_accepted (fs : List Field) (pvals : List Val) (acc : List (Nat × Val)) (seen : List Nat) (rest : Bytes)
    (h : ∀ t ∈ requiredTags fs, t ∈ seen) :
    finish fs pvals acc seen rest = .ok (.struct (assemble fs pvals acc 0), rest) := by
  unfold finish
  have : (requiredTags fs).filter (fun t => ! seen.contains t) = [] := by
    apply List.filter_eq_nil_iff.mpr
    intro t ht; simp [h t ht]
  rw [this]; rfl

end Zvt.C13
