/-
  C06 — a failed exchange yields exactly one error, then silence.
  The shape theorems below hold for EVERY reply script (no assumption on what the terminal sends).
-/
import ZvtVerif.Sequence
namespace Zvt.C06

/-- `k` complete rounds: read a packet (n bytes), answer it with exactly one `80 00 00`, hand it to the caller. -/
def rounds : List (Nat × Nat × Val) → List Ev
  | [] => []
  | (n, i, v) :: rs => .r n :: .w ackBytes :: .y i v :: rounds rs

/-- how an exchange can end. -/
inductive Closing : List Ev → Prop
  | done : Closing [.fin]                               -- right after a yielded packet: normal completion
  | err (k : String) : Closing [.e k, .fin]              -- exactly one error, then the end
  | rerr (n : Nat) (k : String) : Closing [.r n, .e k, .fin]   -- the faulty packet was read, NOT answered, one error, end
  | hang : Closing [.hang]                              -- silence on an open connection (bounded by the caller's time-out, C10)

/-- the four ways one read ends, each with the events it leaves: a packet (`n` bytes read); the end of the stream, at a
packet boundary or `n` bytes into a packet; silence. The shape theorems of C05 and C06 go by these cases. -/
theorem readPkt_evs (t : Term) :
    (∃ p t' n, t.readPkt = (.pkt p, t', [.r n])) ∨ (∃ t', t.readPkt = (.eof, t', [])) ∨
    (∃ t' n, t.readPkt = (.eof, t', [.r n])) ∨ (∃ t', t.readPkt = (.hang, t', [.hang])) := by
  unfold Term.readPkt
  cases readFrame t.avail with
  | packet p rest => exact Or.inl ⟨p, _, _, rfl⟩
  | eof n =>
    by_cases hc : t.closed
    · by_cases hn : n = 0
      · simp [hc, hn]
      · simp [hc, hn]
    · simp [hc]

/-- **Every** run of the reply loop — whatever the terminal sends — is a sequence of complete rounds
followed by one closing; a normal completion only happens directly after a yielded packet. -/
theorem seqLoop_shape (e : EnumDef) (isFinal : Nat → Bool) (once : Bool) :
    ∀ (fuel : Nat) (t : Term), ∃ rs tail, seqLoop e isFinal once fuel t = rounds rs ++ tail ∧ Closing tail ∧
      (tail = [.fin] → rs ≠ []) := by
  intro fuel
  induction fuel with
  | zero => intro t; exact ⟨[], [.hang], rfl, .hang, nofun⟩
  | succ fuel ih =>
    intro t
    simp only [seqLoop]
    rcases readPkt_evs t with ⟨p, t', n, h⟩ | ⟨t', h⟩ | ⟨t', n, h⟩ | ⟨t', h⟩
    · rw [h]; simp only
      cases parseEnum e p with
      | error er => exact ⟨[], [.r n, .e (errName er), .fin], rfl, .rerr n _, nofun⟩
      | ok iv =>
        obtain ⟨i, v⟩ := iv
        simp only
        by_cases hf : once = true ∨ isFinal i = true
        · exact ⟨[(n, i, v)], [.fin], by simp [hf, rounds], .done, by simp⟩
        · obtain ⟨rs, tail, heq, hc, hne⟩ := ih t'.release
          refine ⟨(n, i, v) :: rs, tail, ?_, hc, by simp⟩
          simp [hf, heq, rounds]
    · rw [h]; exact ⟨[], [.e "io:eof", .fin], rfl, .err _, nofun⟩
    · rw [h]; exact ⟨[], [.r n, .e "io:eof", .fin], rfl, .rerr n _, nofun⟩
    · rw [h]; exact ⟨[], [.hang], rfl, .hang, nofun⟩

/-- **Whole exchange.** The command is written exactly once, first. Then either the acknowledgement
phase fails (one error — e.g. for a NACK `84 xx`, anything that is not `80 00`, or a closed connection —
and nothing more is written), or the acknowledgement (`n` bytes) is read and rounds + closing follow. -/
theorem runSeq_shape (e : EnumDef) (once : Bool) (finals : List String) (cmd : Bytes) (items : List Bytes) :
    (∃ tail, runSeq e once finals cmd items = .w cmd :: tail ∧ Closing tail ∧ tail ≠ [.fin]) ∨
    (∃ n rs tail, runSeq e once finals cmd items = .w cmd :: .r n :: (rounds rs ++ tail) ∧ Closing tail ∧
      (tail = [.fin] → rs ≠ [])) := by
  unfold runSeq writeWithAck
  simp only
  rcases readPkt_evs (Term.start items).release.release with ⟨p, t', n, h⟩ | ⟨t', h⟩ | ⟨t', n, h⟩ | ⟨t', h⟩
  · rw [h]; simp only
    cases parseEnum Generated.io_Ack p with
    | error er => exact Or.inl ⟨[.r n, .e (errName er), .fin], by simp, .rerr n _, by simp⟩
    | ok iv =>
      obtain ⟨rs, tail, heq, hc, hne⟩ := seqLoop_shape e (isFinalOf e finals) once (items.length + 2) t'
      exact Or.inr ⟨n, rs, tail, by simp [heq], hc, hne⟩
  · rw [h]; exact Or.inl ⟨[.e "io:eof", .fin], by simp, .err _, by simp⟩
  · rw [h]; exact Or.inl ⟨[.r n, .e "io:eof", .fin], by simp, .rerr n _, by simp⟩
  · rw [h]; exact Or.inl ⟨[.hang], by simp, .hang, by simp⟩

/-! ### What the shape means for the caller -/

def countErr : List Ev → Nat
  | [] => 0
  | .e _ :: r => 1 + countErr r
  | _ :: r => countErr r

def writesAfterFirstErr : List Ev → Nat
  | [] => 0
  | .e _ :: r => (r.filter fun x => match x with | .w _ => true | _ => false).length
  | _ :: r => writesAfterFirstErr r

theorem countErr_rounds (rs : List (Nat × Nat × Val)) (tail : List Ev) :
    countErr (rounds rs ++ tail) = countErr tail := by
  induction rs with
  | nil => simp [rounds]
  | cons r rs ih => obtain ⟨n, i, v⟩ := r; simp [rounds, countErr, ih]

theorem writesAfter_rounds (rs : List (Nat × Nat × Val)) (tail : List Ev) :
    writesAfterFirstErr (rounds rs ++ tail) = writesAfterFirstErr tail := by
  induction rs with
  | nil => simp [rounds]
  | cons r rs ih => obtain ⟨n, i, v⟩ := r; simp [rounds, writesAfterFirstErr, ih]

theorem closing_facts (tail : List Ev) (h : Closing tail) : countErr tail ≤ 1 ∧ writesAfterFirstErr tail = 0 := by
  cases h <;> simp [countErr, writesAfterFirstErr]

/-- At most one error is ever reported, and after it nothing is written to the terminal — for every
sequence, command and reply script. In particular a packet that could not be interpreted is never
acknowledged (the `rerr` closing has no write between the read and the error). -/
theorem one_error_then_silence (e : EnumDef) (once : Bool) (finals : List String) (cmd : Bytes) (items : List Bytes) :
    countErr (runSeq e once finals cmd items) ≤ 1 ∧ writesAfterFirstErr (runSeq e once finals cmd items) = 0 := by
  rcases runSeq_shape e once finals cmd items with ⟨tail, heq, hc, _⟩ | ⟨n, rs, tail, heq, hc, _⟩
  · rw [heq]; simpa [countErr, writesAfterFirstErr] using closing_facts tail hc
  · rw [heq]
    simp only [countErr, writesAfterFirstErr, countErr_rounds, writesAfter_rounds]
    exact closing_facts tail hc

/-- The acknowledgement parser accepts a packet only if its control field is `80 00`. -/
theorem ack_only_8000 (p : Bytes) (i : Nat) (v : Val) (h : parseEnum Generated.io_Ack p = .ok (i, v)) :
    ∃ rest, p = 0x80 :: 0x00 :: rest := by
  unfold parseEnum at h
  match p, h with
  | c0 :: c1 :: rest, h =>
    simp only [Generated.io_Ack, parseVariants] at h
    split at h
    · rename_i hc
      simp [Generated.packets_Ack] at hc
      have h0 : c0 = 0x80 := UInt8.toNat_inj.mp (by simpa using hc.1.symm)
      have h1 : c1 = 0x00 := UInt8.toNat_inj.mp (by simpa using hc.2.symm)
      exact ⟨rest, by rw [h0, h1]⟩
    · simp at h

/-- non-vacuity: a NACK instead of the acknowledgement. -/
example : (runSeq Generated.sequences_ReadCardResponse false ["StatusInformation", "Abort"] [0x06, 0xc0, 0x01, 0x0f]
    [[0x84, 0x9c, 0x00], [0x04, 0xff, 0x01, 0x00]]).length = 4 := by decide +kernel

end Zvt.C06
