/-
  C15 — replies are dispatched solely by their class and instruction bytes.

  For ANY enum definition: what comes back is what the packet decoder of a variant with the input's control field
  returns (`parse_sound`), no such variant is `WrongTag` (`parse_reject`), the FIRST such variant decides, value or
  error (`parse_complete`), fewer than two bytes are incomplete (`parse_short`); and in the shipped enums no variant is
  shadowed (`shipped_ctrls_distinct`).
-/
import ZvtVerif.Derive
import ZvtVerif.Generated
namespace Zvt.C15

/-- a control field outside the reply set is rejected, whatever the body. -/
theorem parseVariants_reject (vs : List (String × StructDef)) (i c0 c1 : Nat) (b : Bytes)
    (h : ∀ p ∈ vs, p.2.ctrl ≠ some (c0, c1)) : parseVariants vs i c0 c1 b = .error (.wrongTag 0) := by
  induction vs generalizing i with
  | nil => simp [parseVariants]
  | cons hd tl ih =>
    obtain ⟨n, s⟩ := hd
    simp only [parseVariants]
    have := h (n, s) (by simp)
    simp only [this, if_false]
    exact ih (i + 1) (fun p hp => h p (by simp [hp]))

theorem parse_reject (e : EnumDef) (c0 c1 : UInt8) (rest : Bytes)
    (h : ∀ p ∈ e.variants, p.2.ctrl ≠ some (c0.toNat, c1.toNat)) :
    parseEnum e (c0 :: c1 :: rest) = .error (.wrongTag 0) := by
  simp only [parseEnum]
  exact parseVariants_reject _ 0 _ _ _ h

/-- completeness: the first variant with the packet's control field decides the outcome — value or error —
with exactly what that variant's packet decoder says. -/
theorem parseVariants_complete (pre : List (String × StructDef)) (n : String) (s : StructDef) (post : List (String × StructDef))
    (i c0 c1 : Nat) (b : Bytes) (hpre : ∀ p ∈ pre, p.2.ctrl ≠ some (c0, c1)) (hs : s.ctrl = some (c0, c1)) :
    parseVariants (pre ++ (n, s) :: post) i c0 c1 b =
      match decodeCmd s b with
      | .error e => .error e
      | .ok (v, _) => .ok (i + pre.length, v) := by
  induction pre generalizing i with
  | nil =>
    simp only [parseVariants, hs, if_true, List.nil_append, List.length_nil, Nat.add_zero]
    cases decodeCmd s b with
    | error e => rfl
    | ok p => cases p; rfl
  | cons hd tl ih =>
    obtain ⟨n', s'⟩ := hd
    simp only [List.cons_append, parseVariants]
    have := hpre (n', s') (by simp)
    simp only [this, if_false]
    rw [ih (i + 1) (fun p hp => hpre p (by simp [hp]))]
    simp only [List.length_cons]
    have : i + 1 + tl.length = i + (tl.length + 1) := by omega
    rw [this]

theorem parse_complete (e : EnumDef) (pre post : List (String × StructDef)) (n : String) (s : StructDef)
    (c0 c1 : UInt8) (rest : Bytes) (he : e.variants = pre ++ (n, s) :: post)
    (hpre : ∀ p ∈ pre, p.2.ctrl ≠ some (c0.toNat, c1.toNat)) (hs : s.ctrl = some (c0.toNat, c1.toNat)) :
    parseEnum e (c0 :: c1 :: rest) =
      match decodeCmd s (c0 :: c1 :: rest) with
      | .error er => .error er
      | .ok (v, _) => .ok (pre.length, v) := by
  simp only [parseEnum, he]
  rw [parseVariants_complete pre n s post 0 _ _ _ hpre hs]
  simp

/-- a list of variants has none with the control field `(c0, c1)`, or a first one. -/
theorem variants_split (vs : List (String × StructDef)) (c0 c1 : Nat) :
    (∀ p ∈ vs, p.2.ctrl ≠ some (c0, c1)) ∨
      ∃ pre n s post, vs = pre ++ (n, s) :: post ∧ (∀ p ∈ pre, p.2.ctrl ≠ some (c0, c1)) ∧ s.ctrl = some (c0, c1) := by
  induction vs with
  | nil => exact .inl (by simp)
  | cons hd tl ih =>
    by_cases hc : hd.2.ctrl = some (c0, c1)
    · exact .inr ⟨[], hd.1, hd.2, tl, rfl, by simp, hc⟩
    · rcases ih with h | ⟨pre, n, s, post, rfl, hpre, hs⟩
      · exact .inl (List.forall_mem_cons.mpr ⟨hc, h⟩)
      · exact .inr ⟨hd :: pre, n, s, post, rfl, List.forall_mem_cons.mpr ⟨hc, hpre⟩, hs⟩

/-- dispatch loop, soundness: a returned variant has exactly the control field of the input, and its
content is what the variant's own packet decoder returns on the same bytes. -/
theorem parseVariants_sound (vs : List (String × StructDef)) (i c0 c1 : Nat) (b : Bytes) (k : Nat) (v : Val)
    (h : parseVariants vs i c0 c1 b = .ok (k, v)) :
    ∃ n s r, vs[k - i]? = some (n, s) ∧ i ≤ k ∧ s.ctrl = some (c0, c1) ∧ decodeCmd s b = .ok (v, r) := by
  rcases variants_split vs c0 c1 with hno | ⟨pre, n, s, post, rfl, hpre, hs⟩
  · rw [parseVariants_reject vs i c0 c1 b hno] at h; cases h
  · rw [parseVariants_complete pre n s post i c0 c1 b hpre hs] at h
    split at h
    · cases h
    · next v' r hd => cases h; exact ⟨n, s, r, by simp, Nat.le_add_right _ _, hs, hd⟩

theorem parse_sound (e : EnumDef) (b : Bytes) (k : Nat) (v : Val) (h : parseEnum e b = .ok (k, v)) :
    ∃ c0 c1 rest n s r, b = c0 :: c1 :: rest ∧ e.variants[k]? = some (n, s) ∧
      s.ctrl = some (c0.toNat, c1.toNat) ∧ decodeCmd s b = .ok (v, r) := by
  unfold parseEnum at h
  match b, h with
  | c0 :: c1 :: rest, h =>
    obtain ⟨n, s, r, hget, _, hc, hd⟩ := parseVariants_sound _ 0 _ _ _ k v h
    exact ⟨c0, c1, rest, n, s, r, rfl, by simpa using hget, hc, hd⟩

theorem parse_short (e : EnumDef) (b : Bytes) (h : b.length < 2) : parseEnum e b = .error .incomplete := by
  match b, h with
  | [], _ | [_], _ => rfl

/-- the control fields of the enum's variants are pairwise distinct, and every variant has one: no variant is shadowed
by an earlier one in the dispatch loop. -/
def ctrlsNodup (e : EnumDef) : Bool := (e.variants.map (·.2.ctrl)).Nodup ∧ e.variants.all (·.2.ctrl.isSome)

theorem shipped_ctrls_distinct : Generated.enums.all ctrlsNodup = true := by decide +kernel

/-- non-vacuity: a concrete abort reply is dispatched to the abort variant of the read-card replies. -/
example : (match parseEnum Generated.sequences_ReadCardResponse [0x06, 0x1e, 0x01, 0x6c] with
    | .ok (i, v) => i == 2 && v.beq (.struct [.num 0x6c])
    | .error _ => false) = true := by decide +kernel

end Zvt.C15
