/-
  C18 — card identity is a fixed function of the data the terminal reports.
-/
import ZvtVerif.Client
namespace Zvt.C18

theorem upperAscii_idem (c : Nat) : upperAscii (upperAscii c) = upperAscii c := by
  -- a lower-case letter becomes an upper-case one; that, like every other character, is left alone
  by_cases h : 97 ≤ c ∧ c ≤ 122
  · simp only [upperAscii, if_pos h]; rw [if_neg (by omega)]
  · simp only [upperAscii, if_neg h]

/-- the canonical form does not depend on the letter case of the reported UID. -/
theorem canon_case_insensitive (u : List Nat) : canonUid (u.map upperAscii) = canonUid u := by
  simp [canonUid, Function.comp_def, upperAscii_idem]

theorem canonUid_eq_drop (u : List Nat) : ∃ k, canonUid u = (u.map upperAscii).drop k ∧ (canonUid u).length ≤ 14 := by
  unfold canonUid
  simp only
  split
  · -- longer than 14: the last 14, without their six leading zeros or with them
    split
    · exact ⟨_, List.drop_drop .., by simp; omega⟩
    · exact ⟨_, rfl, by simp; omega⟩
  · exact ⟨0, rfl, by simp at *; omega⟩

theorem canon_length (u : List Nat) : (canonUid u).length ≤ 14 :=
  let ⟨_, _, h⟩ := canonUid_eq_drop u; h

/-- a UID of at most 14 hex digits is reported as is (upper-cased). -/
theorem canon_short (u : List Nat) (h : u.length ≤ 14) : canonUid u = u.map upperAscii := by
  have h2 : ¬ 14 < u.length := by omega
  simp [canonUid, h2]

/-- the canonical form is a fixed point: canonicalising twice changes nothing (identical for every presentation). -/
theorem canon_idempotent (u : List Nat) : canonUid (canonUid u) = canonUid u := by
  obtain ⟨k, hk, hlen⟩ := canonUid_eq_drop u
  -- short already, and upper-casing a tail of an upper-cased list changes nothing
  rw [canon_short _ hlen, hk, ← List.map_drop, List.map_map]
  exact List.map_congr_left fun c _ => upperAscii_idem c

/-- a longer UID is cut to its last 14 digits, and one leading 000000 of those is dropped. -/
theorem canon_long (u : List Nat) (h : 14 < u.length) :
    let t := (u.map upperAscii).drop (u.length - 14)
    canonUid u = if t.take 6 = [48, 48, 48, 48, 48, 48] then t.drop 6 else t := by
  unfold canonUid
  simp [h]

/-- **Bank versus membership.** Whenever the classification succeeds: it is `bank` exactly when the first
listed application carries an application id, and a membership id is always `canonUid` of the reported UID
of a card without application list. A card with a listed payment application (first entry) is never
reported as a membership card. -/
theorem classify_sound (v : Val) (c : Card) (h : classifyStatus v = .ok c) :
    (c = .bank ∨ ∃ u, c = .member (canonUid u)) := by
  unfold classifyStatus at h
  split at h
  · split at h
    · split at h
      · simp at h; left; exact h.symm
      · simp at h
    · split at h
      · simp at h; right; exact ⟨_, h.symm⟩
      · simp at h
  · simp at h

/-- the documented translations of an abort during card reading. -/
theorem abort_6c_is_no_card : (match readCardAbort 0x6c with | .noCard => true | _ => false) = true := by decide +kernel

/-- every other abort is an error that names the code: the specification's message for it, or the
numeric code when the table has no entry. -/
theorem abort_other (c : Nat) (h : c ≠ 0x6c) :
    (∃ m, errorMessage c = some m ∧ readCardAbort c = .other ("Unhandled error: " ++ m)) ∨
    (errorMessage c = none ∧ readCardAbort c = .other ("Unknown error code: 0x" ++ hexUpper c)) := by
  unfold readCardAbort
  cases hm : errorMessage c with
  | none => right; exact ⟨rfl, rfl⟩
  | some m => left; exact ⟨m, rfl, by simp [h]⟩

/-- The full-strength reading of the property text — "a card on which the terminal lists a payment
application is a bank card, otherwise the UID is the membership id" — is FALSE of the pinned code at
application lists whose first entry has no application id (finding D9, recorded in known_findings.json):
the concrete status information below (UID 010203, one application with only a card-type TLV) is
answered with the error "Unknown card type". -/
def d9Witness : Val :=
  .struct ((List.replicate 20 Val.none) ++ [.some (.struct [.some (.str [48, 49, 48, 50, 48, 51]), .none, .none, .none, .none, .none, .none, .none,
    .vec [.struct [.some (.str [48, 48, 48, 53]), .none]], .none])])

theorem C18_full_counterexample :
    (match classifyStatus d9Witness with | .error (.other m) => m == "Unknown card type" | _ => false) = true := by
  decide +kernel

/-- non-vacuity: a long all-zero-prefixed UID. -/
example : canonUid [48,48,48,48,48,48,48,48,48,48,48,48,48,56,49,99,97,55,50,102] = [48,56,49,67,65,55,50,70] := by decide +kernel

/-- the read-card request of the model carries the constants of the source (card type 10, dialog control 02,
short card reading control D0, allowed cards 07). -/
theorem readcard_constants_match_source :
    (Generated.consts.find? (·.1 == "CARD_TYPE")).map (·.2) = some "Some(16)" ∧
    (Generated.consts.find? (·.1 == "DIALOG_CONTROL")).map (·.2) = some "Some(2)" ∧
    (Generated.consts.find? (·.1 == "SHORT_CARD_READING_CONTROL")).map (·.2) = some "Some(208)" ∧
    (Generated.consts.find? (·.1 == "ALLOWED_CARDS")).map (·.2) = some "Some(7)" := by decide +kernel

end Zvt.C18
