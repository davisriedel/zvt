/-
  C10 — no terminal stall or configuration value can hang a client call.

  The model functions are total and have no `hang` outcome above the sequence level: every wait on the
  terminal is under a timer. The theorems bound the virtual time. What the model cannot exhibit: the
  executor (tokio's timer wheel and wakers); the harness drives the real client on the paused clock and
  compares time stamps exactly (DESIGN.md §12).

  From below: one `next()`, the handshake, one attempt (the lemmas of ClientSteps / ClientConnect / ClientRetry under
  the property's names); the bookkeeping of a slow terminal's pauses (`pauses_sat_out_once`, `marks_parallel`,
  `slow_terminal_not_cut_off`: Proofs/Pace.lean under the property's names); one exchange with its retries
  (`runOp_paced`) and the constants of the source; then every operation as a path of exchanges.
-/
import ZvtVerif.Proofs.ClientOps
import ZvtVerif.Proofs.Pace
namespace Zvt.C10

/-- the per-packet time-out of card reading for EVERY configuration byte: `t + 2`, computed without
overflow (it fits 64 bits with room to spare) and never zero (at least 2 s). -/
theorem timeout_no_overflow (t : Nat) (h : t ≤ 255) :
    readCardTimeoutOf t = t + 2 ∧ 2 ≤ readCardTimeoutOf t ∧ readCardTimeoutOf t ≤ 257 ∧ readCardTimeoutOf t < 2 ^ 64 := by
  unfold readCardTimeoutOf; omega

/-- **every `stream.next()` is over by its deadline**, whatever the terminal does and however slowly it talks: the
clock never runs backwards and the call (begun before the deadline) does not outlast it. -/
theorem next_within_deadline (d : SeqDesc) (dl : Nat) (w : World) (c : ConnSt) (st : SeqSt) (h : w.now ≤ dl) :
    w.now ≤ (seqNext d dl w c st).2.1.now ∧ (seqNext d dl w c st).2.1.now ≤ dl :=
  ⟨(seqNext_time d dl w c st).ge, (seqNext_time d dl w c st).le h⟩

/-- against a terminal that answers at once or not at all, one `stream.next()` consumes no time by itself. -/
theorem next_takes_no_time (d : SeqDesc) (dl : Nat) (w : World) (c : ConnSt) (st : SeqSt) (hg : w.gap = 0) :
    (seqNext d dl w c st).2.1.now = w.now := (seqNext_time d dl w c st).zero hg

/-- the handshake (TCP connect, registration, system info) is bounded by `TIMEOUT` wherever the terminal falls
silent in it and however slowly it talks; against an instant-or-silent terminal it takes no time or exactly `TIMEOUT`. -/
theorem connect_bounded (cfg : Cfg) (w : World) :
    w.now ≤ (connect cfg w).1.now ∧ (connect cfg w).1.now ≤ w.now + TIMEOUT ∧
    (w.gap = 0 → (connect cfg w).1.now = w.now ∨ (connect cfg w).1.now = w.now + TIMEOUT) :=
  (connect_time cfg w).2

/-- an attempt on a live connection: at most one packet time-out per packet it delivers; against an instant-or-silent
terminal it ends at most ONE packet time-out after it began. -/
theorem attempt_bounded {σ ρ : Type} (d : SeqDesc) (timeout : Nat) (step : σ → Item → Step σ ρ)
    (fuel : Nat) (w : World) (c : ConnSt) (st : SeqSt) (s : σ) :
    (runItems d timeout step fuel w c st s).2.1.now ≤ w.now + fuel * timeout ∧
    (w.gap = 0 → (runItems d timeout step fuel w c st s).2.1.now ≤ w.now + timeout) :=
  (runItems_time d timeout step fuel w c st s).2

/-- **no pause is lost or counted twice**: what one `read_packet` waits for plus what is still owed afterwards equals
what was owed before (packet, end of stream, or silence) — the slow terminal's time is accounted for exactly. -/
theorem pauses_sat_out_once (c : ConnSt) :
    (connRead c).2.1 + ((connRead c).2.2.marks.sum + (connRead c).2.2.eofOwed) = c.marks.sum + c.eofOwed :=
  connRead_conserves c

/-- the pause marks stay parallel to the bytes on the wire through sending and reading. -/
theorem marks_parallel (c : ConnSt) (b : Bytes) (h : c.WF) : (c.put b).WF ∧ (connRead c).2.2.WF :=
  ⟨put_wf c b h, connRead_wf c h⟩

/-- **the time-out cuts off silence, not slowness**: in the middle of an exchange a `next()` whose deadline leaves room
for the pauses the terminal still owes ends in `hang` only if the terminal really sends nothing (the per-packet
deadline starts anew with every `next()`: `runItems` passes `now + timeout`). -/
theorem slow_terminal_not_cut_off (d : SeqDesc) (dl : Nat) (w : World) (c : ConnSt)
    (hfit : w.now + w.gap * (c.marks.sum + c.eofOwed) ≤ dl)
    (h : (seqNext d dl w c .looping).1 = NextOut.hang) : (connRead c).1 = .hang :=
  looping_hang_is_silence d dl w c hfit h

def paceBudget (g timeout : Nat) : Nat := ATTEMPTS * attemptBudget (if g = 0 then timeout else ITEM_FUEL * timeout)

/-- the retry loop with what one attempt may take at the terminal's pace: one packet time-out if it answers at once or
falls silent, one per packet otherwise (`runItems_time`). -/
theorem runOp_paced {σ ρ : Type} (cfg : Cfg) (seqName : String) (cmd : Bytes) (timeout : Nat)
    (step : σ → Item → Step σ ρ) (w : World) (s : σ) :
    (runOp cfg seqName cmd timeout step w s).2.gap = w.gap ∧
    (runOp cfg seqName cmd timeout step w s).2.now ≤ w.now + paceBudget w.gap timeout := by
  -- `runOp` is this loop begun un-throttled (`throttleStart none now = now`); `paceBudget` is its bound by definition
  exact retryLoop_time cfg (seqDesc seqName cmd) timeout step w.gap (if w.gap = 0 then timeout else ITEM_FUEL * timeout)
    (fun w' c s' hg' => by
      have h := (runItems_time (seqDesc seqName cmd) timeout step ITEM_FUEL w' c .start s').2
      split
      · next h0 => exact h.2 (hg'.trans h0)
      · exact h.1) ATTEMPTS none w s rfl

/-- **Every exchange with retries returns within `ATTEMPTS × (THROTTLE + TIMEOUT + timeout)`** virtual seconds, for
every reply script, fault table (silence at any position included), connection behaviour and caller loop, against a
terminal that answers at once or falls silent. -/
theorem exchange_bounded {σ ρ : Type} (cfg : Cfg) (seqName : String) (cmd : Bytes) (timeout : Nat)
    (step : σ → Item → Step σ ρ) (w : World) (s : σ) (hg : w.gap = 0) :
    (runOp cfg seqName cmd timeout step w s).2.now ≤ w.now + ATTEMPTS * (THROTTLE + TIMEOUT + timeout) := by
  have := (runOp_paced cfg seqName cmd timeout step w s).2
  -- `paceBudget 0 timeout` computes (`if 0 = 0`) to its one-time-out branch, `ATTEMPTS * attemptBudget timeout`
  rwa [hg] at this

/-- the same against a terminal of any pace (a pause before every packet): finite, growing with the number of packets
one attempt may deliver. -/
theorem exchange_bounded_slow {σ ρ : Type} (cfg : Cfg) (seqName : String) (cmd : Bytes) (timeout : Nat)
    (step : σ → Item → Step σ ρ) (w : World) (s : σ) :
    (runOp cfg seqName cmd timeout step w s).2.now ≤ w.now + ATTEMPTS * (THROTTLE + TIMEOUT + ITEM_FUEL * timeout) := by
  have := (runOp_paced cfg seqName cmd timeout step w s).2
  have : paceBudget w.gap timeout ≤ ATTEMPTS * (THROTTLE + TIMEOUT + ITEM_FUEL * timeout) := by
    unfold paceBudget attemptBudget ITEM_FUEL
    apply Nat.mul_le_mul_left
    split <;> omega
  omega

def constOf (k : String) : Option String := (Generated.consts.find? (·.1 == k)).map (·.2)

/-- **The model's retry budget is the source's**: the constants the theorems above are stated with are the ones
the translator reads from the source on this run — `TIMEOUT` in stream.rs, and the `throttle(2 s).take(20)` retry
streams of `ResetSequence::into_stream` and of `Feig::read_card`. -/
theorem retry_constants_match_source :
    constOf "TIMEOUT" = some "secs(60)" ∧ TIMEOUT = 60 ∧
    constOf "RETRY[into_stream]" = some "throttle=secs(2) take=20" ∧
    constOf "RETRY[read_card]" = some "throttle=secs(2) take=20" ∧ THROTTLE = 2 ∧ ATTEMPTS = 20 := by
  decide +kernel

/-- the budgets with the constants of the source: 20 × (2 + 60 + 60) = 2440 s for ordinary exchanges. -/
theorem budget_default : ATTEMPTS * (THROTTLE + TIMEOUT + TIMEOUT) = 2440 := by decide

theorem paceBudget_zero : paceBudget 0 TIMEOUT = 2440 := by decide

/-! ### every public operation: composition of bounded exchanges

`…_paced` : for a terminal of ANY pace the operation leaves the pace alone and returns within so many exchange budgets
`paceBudget w.gap …` (which commands the exchanges carry plays no part: `C := fun _ => True`); `…_bounded` : the numbers for a
terminal that answers at once or falls silent (`gap = 0`). -/

theorem exchanges_paced {cfg : Cfg} {T n : Nat} {C : Bytes → Prop} {a b : World} (h : Exchanges cfg T C n a b) :
    b.gap = a.gap ∧ b.now ≤ a.now + n * paceBudget a.gap T := by
  induction h with
  | done n w => exact ⟨rfl, Nat.le_add_right _ _⟩
  | step name cmd f w s _ _ ih =>
    obtain ⟨hg, hn⟩ := runOp_paced cfg name cmd T f w s
    rw [hg] at ih
    exact ⟨ih.1, by rw [Nat.succ_mul]; omega⟩

theorem exchange_paced {cfg : Cfg} {T : Nat} {C : Bytes → Prop} {a b : World} (h : Exchanges cfg T C 1 a b) :
    b.gap = a.gap ∧ b.now ≤ a.now + paceBudget a.gap T := by
  have h := exchanges_paced h
  rwa [Nat.one_mul] at h

theorem readCard_paced (cfg : Cfg) (w : World) :
    (readCard cfg w).2.gap = w.gap ∧
    (readCard cfg w).2.now ≤ w.now + paceBudget w.gap (readCardTimeoutOf cfg.readCardTimeout) :=
  exchange_paced (exchanges_readCard (C := fun _ => True) trivial (Prod.eta _).symm)

/-- **read_card** for every `read_card_timeout` 0..255: at most 20 × (2 + 60 + t + 2) ≤ 6380 s. -/
theorem readCard_bounded (cfg : Cfg) (w : World) (h : cfg.readCardTimeout ≤ 255) (hg : w.gap = 0) :
    (readCard cfg w).2.now ≤ w.now + 6380 := by
  have hb := (readCard_paced cfg w).2
  rw [hg] at hb
  have : paceBudget 0 (readCardTimeoutOf cfg.readCardTimeout) ≤ 6380 := by
    simp only [paceBudget, if_pos, ATTEMPTS, attemptBudget, THROTTLE, TIMEOUT, readCardTimeoutOf]; omega
  omega

theorem begin_paced (cfg : Cfg) (cl : Client) (token : List Nat) (w : World) :
    (beginTx cfg cl token w).2.2.gap = w.gap ∧ (beginTx cfg cl token w).2.2.now ≤ w.now + paceBudget w.gap TIMEOUT :=
  exchange_paced (exchanges_beginTx (C := fun _ => True) trivial (eta3 _))

/-- **begin** : refused at once, or one reservation exchange. -/
theorem begin_bounded (cfg : Cfg) (cl : Client) (token : List Nat) (w : World) (hg : w.gap = 0) :
    (beginTx cfg cl token w).2.2.now ≤ w.now + 2440 := by
  have hb := (begin_paced cfg cl token w).2
  rw [hg, paceBudget_zero] at hb; exact hb

theorem getSystemInfo_paced (cfg : Cfg) (w : World) :
    (getSystemInfo cfg w).2.gap = w.gap ∧ (getSystemInfo cfg w).2.now ≤ w.now + paceBudget w.gap TIMEOUT :=
  exchange_paced (exchanges_getSystemInfo (C := fun _ => True) trivial (Prod.eta _).symm)

theorem setTerminalId_paced (cfg : Cfg) (w : World) :
    (setTerminalId cfg w).2.gap = w.gap ∧ (setTerminalId cfg w).2.now ≤ w.now + 2 * paceBudget w.gap TIMEOUT :=
  exchanges_paced (exchanges_setTerminalId (C := fun _ => True) trivial trivial (Prod.eta _).symm)

theorem initialize_paced (cfg : Cfg) (w : World) :
    (initializeT cfg w).2.gap = w.gap ∧ (initializeT cfg w).2.now ≤ w.now + paceBudget w.gap TIMEOUT :=
  exchange_paced (exchanges_initializeT (C := fun _ => True) trivial (Prod.eta _).symm)

theorem cancelByReceipt_paced (cfg : Cfg) (r : Nat) (w : World) :
    (cancelByReceipt cfg r w).2.gap = w.gap ∧ (cancelByReceipt cfg r w).2.now ≤ w.now + paceBudget w.gap TIMEOUT :=
  exchange_paced (exchanges_cancelByReceipt (C := fun _ => True) trivial (Prod.eta _).symm)

/-- the pending query reports at most one receipt, within one exchange budget. -/
theorem getPending_paced (cfg : Cfg) (w : World) :
    ((getPending cfg w).2.gap = w.gap ∧ (getPending cfg w).2.now ≤ w.now + paceBudget w.gap TIMEOUT) ∧
    ∀ l, (getPending cfg w).1 = .ok l → l.length ≤ 1 :=
  ⟨exchange_paced (exchanges_getPending (C := fun _ => True) trivial (Prod.eta _).symm),
   fun _ h => getPending_length (Prod.ext h rfl)⟩

/-- **end_of_day** (pending query, reversal of at most one receipt, end-of-day): three exchange budgets. -/
theorem endOfDay_paced (cfg : Cfg) (cl : Client) (w : World) :
    (endOfDay cfg cl w).2.2.gap = w.gap ∧ (endOfDay cfg cl w).2.2.now ≤ w.now + 3 * paceBudget w.gap TIMEOUT :=
  exchanges_paced (exchanges_endOfDay (C := fun _ => True) (fun _ _ => trivial) (eta3 _))

/-- **configure** (`Feig::new` runs it): system info, set terminal id, initialisation, end-of-day. -/
theorem configure_paced (cfg : Cfg) (cl : Client) (w : World) :
    (configure cfg cl w).2.2.gap = w.gap ∧ (configure cfg cl w).2.2.now ≤ w.now + 6 * paceBudget w.gap TIMEOUT :=
  exchanges_paced (exchanges_configure (C := fun _ => True) trivial trivial trivial (fun _ _ => trivial) (eta3 _))

theorem idleCleanup_paced (cfg : Cfg) (cl : Client) (w : World) :
    (idleCleanup cfg cl w).2.2.gap = w.gap ∧ (idleCleanup cfg cl w).2.2.now ≤ w.now + 3 * paceBudget w.gap TIMEOUT :=
  exchanges_paced (exchanges_idleCleanup (C := fun _ => True) (fun _ _ _ => trivial) (eta3 _))

/-- **cancel**: refused at once, or the reversal exchange plus the idle clean-up. -/
theorem cancel_paced (cfg : Cfg) (cl : Client) (token : List Nat) (w : World) :
    (cancelTx cfg cl token w).2.2.gap = w.gap ∧ (cancelTx cfg cl token w).2.2.now ≤ w.now + 4 * paceBudget w.gap TIMEOUT :=
  exchanges_paced (exchanges_cancelTx (C := fun _ => True) (fun _ _ => trivial) (fun _ _ _ => trivial) (eta3 _))

/-- **commit**: refused at once, or the partial-reversal exchange plus the idle clean-up. -/
theorem commit_paced (cfg : Cfg) (cl : Client) (token : List Nat) (final : Nat) (w : World) :
    (commitTx cfg cl token final w).2.2.gap = w.gap ∧ (commitTx cfg cl token final w).2.2.now ≤ w.now + 4 * paceBudget w.gap TIMEOUT :=
  exchanges_paced (exchanges_commitTx (C := fun _ => True) (fun _ _ => trivial) (fun _ _ _ => trivial) (eta3 _))

/-! the numbers against a terminal that answers at once or falls silent (`gap = 0`): one exchange = 2440 s -/

theorem setTerminalId_bounded (cfg : Cfg) (w : World) (hg : w.gap = 0) : (setTerminalId cfg w).2.now ≤ w.now + 4880 := by
  have h := (setTerminalId_paced cfg w).2; rw [hg, paceBudget_zero] at h; omega
theorem initialize_bounded (cfg : Cfg) (w : World) (hg : w.gap = 0) : (initializeT cfg w).2.now ≤ w.now + 2440 := by
  have h := (initialize_paced cfg w).2; rw [hg, paceBudget_zero] at h; omega
theorem getSystemInfo_bounded (cfg : Cfg) (w : World) (hg : w.gap = 0) : (getSystemInfo cfg w).2.now ≤ w.now + 2440 := by
  have h := (getSystemInfo_paced cfg w).2; rw [hg, paceBudget_zero] at h; omega
theorem cancelByReceipt_bounded (cfg : Cfg) (r : Nat) (w : World) (hg : w.gap = 0) : (cancelByReceipt cfg r w).2.now ≤ w.now + 2440 := by
  have h := (cancelByReceipt_paced cfg r w).2; rw [hg, paceBudget_zero] at h; omega
theorem getPending_bounded (cfg : Cfg) (w : World) (hg : w.gap = 0) :
    (getPending cfg w).2.now ≤ w.now + 2440 ∧ ∀ l, (getPending cfg w).1 = .ok l → l.length ≤ 1 := by
  have h := getPending_paced cfg w; rw [hg, paceBudget_zero] at h; exact ⟨h.1.2, h.2⟩
theorem endOfDay_bounded (cfg : Cfg) (cl : Client) (w : World) (hg : w.gap = 0) : (endOfDay cfg cl w).2.2.now ≤ w.now + 7320 := by
  have h := (endOfDay_paced cfg cl w).2; rw [hg, paceBudget_zero] at h; omega
theorem configure_bounded (cfg : Cfg) (cl : Client) (w : World) (hg : w.gap = 0) : (configure cfg cl w).2.2.now ≤ w.now + 14640 := by
  have h := (configure_paced cfg cl w).2; rw [hg, paceBudget_zero] at h; omega
theorem idleCleanup_bounded (cfg : Cfg) (cl : Client) (w : World) (hg : w.gap = 0) : (idleCleanup cfg cl w).2.2.now ≤ w.now + 7320 := by
  have h := (idleCleanup_paced cfg cl w).2; rw [hg, paceBudget_zero] at h; omega
theorem cancel_bounded (cfg : Cfg) (cl : Client) (token : List Nat) (w : World) (hg : w.gap = 0) :
    (cancelTx cfg cl token w).2.2.now ≤ w.now + 9760 := by
  have h := (cancel_paced cfg cl token w).2; rw [hg, paceBudget_zero] at h; omega
theorem commit_bounded (cfg : Cfg) (cl : Client) (token : List Nat) (final : Nat) (w : World) (hg : w.gap = 0) :
    (commitTx cfg cl token final w).2.2.now ≤ w.now + 9760 := by
  have h := (commit_paced cfg cl token final w).2; rw [hg, paceBudget_zero] at h; omega

end Zvt.C10
