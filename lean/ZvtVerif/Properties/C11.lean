/-
  C11 — firmware upload sends exactly the requested bytes of the right file.
-/
import ZvtVerif.WriteFile
import ZvtVerif.Spec.Layout
namespace Zvt.C11

/-- the path → file-id table translated from `convert_dir` on this run equals the specification's. -/
theorem fileIds_eq_spec : Generated.fileIds = Spec.fileIds := by rfl

/-- ids are pairwise distinct: a recognised file is never announced under another file's id. -/
theorem fileIds_distinct : (Generated.fileIds.map (·.2)).Nodup ∧ (Generated.fileIds.map (·.1)).Nodup := by decide +kernel

/-- **the block is a contiguous slice of the file**: for every content, offset and block size the data is
`content[off ..]` cut to at most `block` bytes — bit-identical to the file, empty at or after the end. -/
theorem block_exact (content : Bytes) (off block : Nat) :
    (wfBlock content off block).length = min block (content.length - off) ∧
    (∀ i, i < (wfBlock content off block).length → (wfBlock content off block)[i]? = content[off + i]?) := by
  unfold wfBlock
  refine ⟨by simp, ?_⟩
  intro i hi
  simp only [List.length_take, List.length_drop] at hi
  rw [List.getElem?_take_of_lt (by omega), List.getElem?_drop]

theorem block_empty_at_eof (content : Bytes) (off block : Nat) (h : content.length ≤ off) :
    wfBlock content off block = [] := by
  unfold wfBlock
  rw [List.drop_eq_nil_of_le h]; simp

/-- consecutive blocks tile the file: requesting offsets 0, b, 2b, … reproduces the content. -/
theorem blocks_tile (content : Bytes) (off block : Nat) :
    wfBlock content off block ++ (content.drop (off + block)) = content.drop off := by
  unfold wfBlock
  rw [← List.drop_drop]
  exact List.take_append_drop block (content.drop off)

/-- a request for a file that was not announced, or lacking file / id / offset, never sends data. -/
theorem unknown_id_fails (files : List (Nat × Bytes)) (block i : Nat) (v : Val) (s : StructDef) (tlv file : Val) (id off : Nat)
    (hv : wfEnum.variants[i]? = some ("RequestForData", s))
    (h1 : fieldOfS rfdStruct v "tlv" = .some tlv) (h2 : fieldOfS tlvWriteDataStruct tlv "file" = .some file)
    (h3 : optNum (fieldOfS tlvFileStruct file "file_id") = some id) (h4 : optNum (fieldOfS tlvFileStruct file "file_offset") = some off)
    (h5 : files.find? (·.1 = id) = none) :
    (match wfDecide files block i v with | .fail => true | _ => false) = true := by
  rw [wfDecide]
  simp [hv, h1, h2, h3, h4, h5]

theorem missing_id_fails (files : List (Nat × Bytes)) (block i : Nat) (v : Val) (s : StructDef) (tlv file : Val)
    (hv : wfEnum.variants[i]? = some ("RequestForData", s))
    (h1 : fieldOfS rfdStruct v "tlv" = .some tlv) (h2 : fieldOfS tlvWriteDataStruct tlv "file" = .some file)
    (h3 : optNum (fieldOfS tlvFileStruct file "file_id") = none) :
    (match wfDecide files block i v with | .fail => true | _ => false) = true := by
  rw [wfDecide]
  simp [hv, h1, h2, h3]

/-- a valid request is answered with the id, the offset and exactly that block. -/
theorem valid_request_answer (files : List (Nat × Bytes)) (block i : Nat) (v : Val) (s : StructDef) (tlv file : Val) (id off : Nat)
    (content : Bytes) (pkt : Bytes)
    (hv : wfEnum.variants[i]? = some ("RequestForData", s))
    (h1 : fieldOfS rfdStruct v "tlv" = .some tlv) (h2 : fieldOfS tlvWriteDataStruct tlv "file" = .some file)
    (h3 : optNum (fieldOfS tlvFileStruct file "file_id") = some id) (h4 : optNum (fieldOfS tlvFileStruct file "file_offset") = some off)
    (h5 : files.find? (·.1 = id) = some (id, content)) (h6 : wfData id off (wfBlock content off block) = .ok pkt) :
    (match wfDecide files block i v with | .data p => p == pkt | _ => false) = true := by
  rw [wfDecide]
  simp [hv, h1, h2, h3, h4, h5, h6]

/-- an empty payload directory ends the upload with an error before anything is sent. -/
theorem empty_directory (block password : Nat) (items : List Bytes) :
    runWriteFile [] block password items = [.e "io:InvalidData", .fin] := rfl

/-- bytes of a concrete answer, evaluated in the kernel: file 0x10 = 00..09, offset 2, block 4. -/
example : wfData 0x10 2 (wfBlock [0, 1, 2, 3, 4, 5, 6, 7, 8, 9] 2 4) =
    .ok [0x80, 0x00, 0x13, 0x06, 0x11, 0x2d, 0x0f, 0x1d, 0x01, 0x10, 0x1e, 0x04, 0x00, 0x00, 0x00, 0x02, 0x1c, 0x04, 0x02, 0x03, 0x04, 0x05] := by
  decide +kernel

end Zvt.C11
