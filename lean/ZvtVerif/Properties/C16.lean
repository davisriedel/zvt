/-
  C16 — every length-prefix style is an exact, shortest-form bijection on its range.
  Property theorems only; helper lemmas live in Proofs/.
-/
import ZvtVerif.Proofs.LengthLemmas
namespace Zvt.C16

/-! ## BER-TLV, 0..65535 -/

/-- serialise then parse with arbitrary trailing data: the length and exactly that data. -/
theorem tlv_ser_de (n : Nat) (h : n ≤ 65535) (d : Bytes) :
    ∃ p, LenKind.tlv.ser n = .ok p ∧ LenKind.tlv.de (p ++ d) = .ok (n, d) := by
  refine ⟨_, tlv_ser_eq n h, ?_⟩
  split
  · have e := tlvDe_one (byte n) d
    rw [byte_toNat_lt (show n < 256 by omega)] at e
    exact e (by omega)
  split
  · have e := tlvDe_two (byte n) d
    rwa [byte_toNat_lt (show n < 256 by omega)] at e
  · have e := tlvDe_three (byte (n / 256)) (byte (n % 256)) d
    rwa [byte_toNat_div (show n < 65536 by omega), byte_toNat_mod, Nat.div_add_mod'] at e

/-- shortest form: one, two or three bytes, switching at 128 and 256. -/
theorem tlv_shortest (n : Nat) (h : n ≤ 65535) :
    ∃ p, LenKind.tlv.ser n = .ok p ∧ p.length = (if n < 128 then 1 else if n < 256 then 2 else 3) := by
  refine ⟨_, tlv_ser_eq n h, ?_⟩
  split
  · rfl
  split <;> rfl

theorem tlv_above_range_panics (n : Nat) (h : 65535 < n) : LenKind.tlv.ser n = .error (.panic "Unsupported length") := by
  unfold LenKind.ser
  simp [show ¬ n ≤ 127 by omega, show ¬ n ≤ 255 by omega, show ¬ n ≤ 65535 by omega]

theorem tlv_truncated (n : Nat) (h : n ≤ 65535) (p q : Bytes) (hp : LenKind.tlv.ser n = .ok (p ++ q)) (hq : q ≠ []) :
    LenKind.tlv.de p = .error .incomplete :=
  of_proper_prefix (P := fun l => LenKind.tlv.de l = .error .incomplete) (tlv_prefix_incomplete n h _ hp) hq

/-! ## APDU, 0..65535 -/

theorem adpu_ser_de (n : Nat) (h : n ≤ 65535) (d : Bytes) :
    ∃ p, LenKind.adpu.ser n = .ok p ∧ LenKind.adpu.de (p ++ d) = .ok (n, d) := by
  refine ⟨_, adpu_ser_eq n h, ?_⟩
  split
  · have e := adpuDe_one (byte n) d
    rw [byte_toNat_lt (show n < 256 by omega)] at e
    exact e (by omega)
  · have e := adpuDe_three (byte (n % 256)) (byte (n / 256)) d
    rwa [byte_toNat_mod, byte_toNat_div (show n < 65536 by omega), Nat.mod_add_div] at e

/-- extended (three byte) form exactly from 255. -/
theorem adpu_shortest (n : Nat) (h : n ≤ 65535) :
    ∃ p, LenKind.adpu.ser n = .ok p ∧ p.length = (if n < 255 then 1 else 3) := by
  refine ⟨_, adpu_ser_eq n h, ?_⟩
  split <;> rfl

theorem adpu_truncated (n : Nat) (h : n ≤ 65535) (p q : Bytes) (hp : LenKind.adpu.ser n = .ok (p ++ q)) (hq : q ≠ []) :
    LenKind.adpu.de p = .error .incomplete :=
  of_proper_prefix (P := fun l => LenKind.adpu.de l = .error .incomplete) (adpu_prefix_incomplete n h _ hp) hq

/-! ## LLVAR (N = 2, 0..99) and LLLVAR (N = 3, 0..999); any digit count N -/

theorem llv_ser_de (N n : Nat) (h : n < 10 ^ N) (d : Bytes) :
    ∃ p, (LenKind.llv N).ser n = .ok p ∧ p.length = N ∧ (LenKind.llv N).de (p ++ d) = .ok (n, d) := by
  refine ⟨(llvSerRev N n).reverse, rfl, by simp [llvSerRev_length], ?_⟩
  have := llvDe_ser N n 0 d h
  simpa [LenKind.de] using this

theorem llvar_ser_de (n : Nat) (h : n ≤ 99) (d : Bytes) :
    ∃ p, (LenKind.llv 2).ser n = .ok p ∧ p.length = 2 ∧ (LenKind.llv 2).de (p ++ d) = .ok (n, d) :=
  llv_ser_de 2 n (by omega) d

theorem lllvar_ser_de (n : Nat) (h : n ≤ 999) (d : Bytes) :
    ∃ p, (LenKind.llv 3).ser n = .ok p ∧ p.length = 3 ∧ (LenKind.llv 3).de (p ++ d) = .ok (n, d) :=
  llv_ser_de 3 n (by omega) d

theorem llv_truncated (N : Nat) (p : Bytes) (h : p.length < N) : (LenKind.llv N).de p = .error .incomplete := by
  simpa [LenKind.de] using llvDe_short N 0 p h

/-! ## Fixed width: left padding with zero bytes; the parser announces N and hands the data through -/

theorem fixed_pad (N len : Nat) (h : len ≤ N) : (LenKind.fixed N).ser len = .ok (List.replicate (N - len) 0) := by
  simp [LenKind.ser, h]

theorem fixed_total_width (N : Nat) (payload : Bytes) (h : payload.length ≤ N) :
    ∃ p, (LenKind.fixed N).ser payload.length = .ok p ∧ (p ++ payload).length = N := by
  refine ⟨_, fixed_pad N _ h, ?_⟩
  simp; omega

theorem fixed_de (N : Nat) (b : Bytes) :
    (LenKind.fixed N).de b = if b.length < N then .error .incomplete else .ok (N, b) := by
  simp [LenKind.de]

/-! ## Injectivity (a consequence of the round trips) -/

/-- a length that is read back from what it writes is determined by what it writes. -/
theorem eq_of_ser_de {L : LenKind} {n m : Nat} {p : Bytes}
    (hn : ∃ q, L.ser n = .ok q ∧ L.de (q ++ []) = .ok (n, [])) (hm : ∃ q, L.ser m = .ok q ∧ L.de (q ++ []) = .ok (m, []))
    (en : L.ser n = .ok p) (em : L.ser m = .ok p) : n = m := by
  obtain ⟨q1, e1, d1⟩ := hn
  obtain ⟨q2, e2, d2⟩ := hm
  rw [en] at e1; rw [em] at e2
  cases e1; cases e2
  rw [d1] at d2; simpa using d2

theorem ser_injective (L : LenKind) (n m : Nat) (p : Bytes)
    (hL : (L = .tlv ∧ n ≤ 65535 ∧ m ≤ 65535) ∨ (L = .adpu ∧ n ≤ 65535 ∧ m ≤ 65535) ∨ (∃ N, L = .llv N ∧ n < 10 ^ N ∧ m < 10 ^ N))
    (hn : L.ser n = .ok p) (hm : L.ser m = .ok p) : n = m := by
  rcases hL with ⟨rfl, h1, h2⟩ | ⟨rfl, h1, h2⟩ | ⟨N, rfl, h1, h2⟩
  · exact eq_of_ser_de (tlv_ser_de n h1 []) (tlv_ser_de m h2 []) hn hm
  · exact eq_of_ser_de (adpu_ser_de n h1 []) (adpu_ser_de m h2 []) hn hm
  · have ⟨q1, e1, _, d1⟩ := llv_ser_de N n h1 []
    have ⟨q2, e2, _, d2⟩ := llv_ser_de N m h2 []
    exact eq_of_ser_de ⟨q1, e1, d1⟩ ⟨q2, e2, d2⟩ hn hm

/-! ## Parsers are total: never a panic, on any input -/

theorem de_no_panic (L : LenKind) (b : Bytes) (hL : ∀ s, L ≠ .unknown s) : (L.de b).isPanic = false :=
  (lenDe_np L hL b).1

/-! ## Non-vacuity: concrete instances at the switching points -/

example : LenKind.tlv.ser 127 = .ok [0x7f] ∧ LenKind.tlv.ser 128 = .ok [0x81, 0x80] ∧
    LenKind.tlv.ser 255 = .ok [0x81, 0xff] ∧ LenKind.tlv.ser 256 = .ok [0x82, 0x01, 0x00] ∧
    LenKind.tlv.ser 65535 = .ok [0x82, 0xff, 0xff] := by decide
example : LenKind.adpu.ser 254 = .ok [0xfe] ∧ LenKind.adpu.ser 255 = .ok [0xff, 0xff, 0x00] ∧
    LenKind.adpu.ser 65535 = .ok [0xff, 0xff, 0xff] := by decide
example : (LenKind.llv 2).ser 99 = .ok [0xf9, 0xf9] ∧ (LenKind.llv 3).ser 7 = .ok [0xf0, 0xf0, 0xf7] := by decide
example : LenKind.tlv.de [0x82, 0x01] = .error .incomplete := by decide

end Zvt.C16
