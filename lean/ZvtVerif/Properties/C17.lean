/-
  C17 — scalar, text and tag encodings round-trip over their whole domain.

  Integers (both byte orders, every width; short input is incomplete), packed BCD (round trip, digits only, most significant first, overflow is an
  error, F padding, leading zero bytes), tags (default and big-endian), hex text in both directions, CP437 bytes → text →
  bytes (`cp437_roundtrip_bytes`; text → bytes → text is `cp437_text_roundtrip` in Proofs/EncodingLemmas.lean, used by C01),
  receipt numbers.
-/
import ZvtVerif.Proofs.EncodingLemmas
import ZvtVerif.Schema
namespace Zvt.C17

/-- little- and big-endian integers of every width: every value, arbitrary trailing data. -/
theorem int_roundtrip (be : Bool) (w n : Nat) (h : n < 256 ^ w) (d : Bytes) :
    intDecode be w (intEncode be w n ++ d) = .ok (n, d) := intDecode_intEncode be w n h d

theorem int_truncated (be : Bool) (w : Nat) (b : Bytes) (h : b.length < w) :
    intDecode be w b = .error .incomplete := takeDec_short w _ b h

theorem bcd_roundtrip (w n : Nat) (h : n < 256 ^ w) : bcdDec w (bcdEncK n) = .ok (n, []) := by
  rw [bcdEncK_eq]; exact bcdDec_bcdEnc w n h

/-- the encoder emits decimal digits only (both nibbles 0–9) … -/
theorem bcd_digits_only (n : Nat) : ∀ b ∈ bcdEncK n, b.toNat / 16 ≤ 9 ∧ b.toNat % 16 ≤ 9 := by
  rw [bcdEncK_eq]; exact bcdEnc_digits n

/-- … most significant digit first: the bytes of `n` are the bytes of `n / 100` followed by the
byte holding the last two decimal digits. -/
theorem bcd_msd_first (n : Nat) (h : n ≠ 0) :
    bcdEncK n = bcdEncK (n / 100) ++ [byte ((n / 10 % 10) * 16 + n % 10)] := by
  simp only [bcdEncK_eq]; exact bcdEnc_pos n h

/-- Digits that do not fit the target integer are an error, never a wrapped value: the decoder
returns exactly the unbounded value of the digit string when that fits `w` bytes, and
`IncompleteData` otherwise. Debug and release builds therefore agree. -/
theorem bcd_overflow_is_error (w : Nat) (ds : Bytes) :
    bcdDec w ds = if bcdValFrom 0 ds < 256 ^ w then .ok (bcdValFrom 0 ds, []) else .error .incomplete :=
  bcdDec_spec w ds

/-- F-padded odd-length input is accepted: a final `hF` byte contributes the single digit `h`. -/
theorem bcd_f_padding (w rv h : Nat) (hh : h ≤ 9) (hfit : rv * 10 + h < 256 ^ w) :
    bcdStep w rv (byte (h * 16 + 15)) = .ok (rv * 10 + h) := by
  have ⟨e1, e2⟩ := byte_nibbles h 15 (by omega) (by omega)
  simp only [bcdStep, e1, e2]
  simp [hfit]

/-- zero bytes in front (fixed-width padding) do not change the value. -/
theorem bcd_leading_zeros (w k : Nat) (xs : Bytes) :
    bcdDec w (List.replicate k 0 ++ xs) = bcdDec w xs := by
  rw [bcdDec_spec, bcdDec_spec, bcdValFrom_zeros]

/-- every representable one- and two-byte tag round-trips, with arbitrary trailing data. -/
theorem tag_roundtrip (t : Nat) (h : tagRepresentable t) (d : Bytes) :
    tagDecDefault (tagEncDefault t ++ d) = .ok (t, d) := by
  unfold tagEncDefault
  rcases h with ⟨h1, h2, h3⟩ | ⟨h1, h2⟩
  · have hh : ¬ (t / 256 = 0x1f ∨ t / 256 = 0xff) := by omega
    simp only [hh, if_false]
    have : (byte t).toNat = t := byte_toNat_lt h1
    simp [tagDecDefault, this, h2, h3]
  · simp only [h2, if_true, beBytes_two t h1, List.cons_append, List.nil_append, tagDecDefault, byte_toNat_div h1,
      byte_toNat_mod, Nat.div_add_mod']

/-- one byte unless the first byte is 1F or FF. -/
theorem tag_shape (t : Nat) :
    (tagEncDefault t).length = (if t / 256 = 0x1f ∨ t / 256 = 0xff then 2 else 1) := by
  by_cases h : t / 256 = 0x1f ∨ t / 256 = 0xff <;> simp [tagEncDefault, h, beBytes_length]

theorem tag_be_roundtrip (t : Nat) (h : t < 65536) (d : Bytes) : tagDecBE (tagEncBE t ++ d) = .ok (t, d) := by
  have := intDecode_intEncode true 2 t (by simpa using h) d
  simpa [tagDecBE, tagEncBE, intEncode] using this

/-- hex text: every byte string decodes to lower-case hex and encodes back … -/
theorem hex_roundtrip_bytes (b : Bytes) : hexEncodeStr (hexDecodeStr b) = .ok b := by
  induction b with
  | nil => rfl
  | cons x xs ih =>
    simp only [hexDecodeStr, hexEncodeStr]
    have hx := toNat_lt x
    rw [hexVal_hexDigit _ (by omega), hexVal_hexDigit _ (by omega), ih]
    simp only
    rw [Nat.div_add_mod' x.toNat 16, byte_of_toNat]

/-- … and every even-length lower-case hex string survives encode → decode. -/
theorem hex_roundtrip_text (cs : List Nat) (b : Bytes) (hl : ∀ c ∈ cs, isLowerHex c = true)
    (h : hexEncodeStr cs = .ok b) : hexDecodeStr b = cs := hexDecode_hexEncode cs b hl h

theorem cp437_roundtrip_byte (b : UInt8) : cpEncode (cpDecode b) = some b := by
  have hb := toNat_lt b
  unfold cpDecode
  split
  · rename_i h
    simp only [cpEncode, h, if_true, byte_of_toNat]
  · -- the upper half: the table entry at `b - 128` is found at that position again
    have hlt : b.toNat - 128 < cp437High.length := by rw [cp437High_length]; omega
    have ⟨hi, hge⟩ := cp437High_getElem _ hlt
    rw [List.getD_eq_getElem?_getD, List.getElem?_eq_getElem hlt, Option.getD_some]
    simp only [cpEncode, Nat.not_lt.mpr hge, if_false, hi]
    rw [show 128 + (b.toNat - 128) = b.toNat by omega, byte_of_toNat]

theorem cp437_roundtrip_bytes (b : Bytes) : cpEncodeStr (b.map cpDecode) = .ok b := by
  induction b with
  | nil => rfl
  | cons x xs ih => simp only [List.map_cons, cpEncodeStr, cp437_roundtrip_byte, ih]

/-- receipt numbers: the FFFF sentinel and every 4-digit BCD value, in the 2-byte field. -/
theorem receiptNo_sentinel (w : Nat) (d : Bytes) : prrnDec w (prrnEnc 0xffff ++ d) = .ok (0xffff, d) := by
  simp [prrnEnc, prrnDec, leBytes, byte]

/-- `padLeft 2` is what `Fixed<2>` does to the (at most two) BCD bytes. -/
theorem receiptNo_roundtrip (n : Nat) (h : n ≤ 9999) (d : Bytes) :
    prrnDec 8 (padLeft 2 (prrnEnc n) ++ d) = .ok (n, d) := by
  have hne : n ≠ 0xffff := by omega
  have hlen : (bcdEnc n).length ≤ 2 := bcdEnc_length_le 2 n (by omega)
  have hdig := bcdEnc_digits n
  have hdec : bcdDec 8 (padLeft 2 (bcdEnc n)) = .ok (n, []) := by
    unfold padLeft
    rw [bcd_leading_zeros]
    exact bcdDec_bcdEnc 8 n (by omega)
  have hpl : (padLeft 2 (bcdEnc n)).length = 2 := by simp [padLeft]; omega
  have hmem : ∀ b ∈ padLeft 2 (bcdEnc n), b.toNat % 16 ≤ 9 := by
    intro b hb
    simp only [padLeft, List.mem_append, List.mem_replicate] at hb
    rcases hb with ⟨_, rfl⟩ | hb
    · decide
    · exact (hdig b hb).2
  simp only [prrnEnc, hne, if_false, bcdEncK_eq]
  match hp : padLeft 2 (bcdEnc n), hpl with
  | [b0, b1], _ =>
    rw [hp] at hdec hmem
    have h1 := hmem b1 (by simp)
    have hnot : ¬ (b0 = 0xff ∧ b1 = 0xff) := by
      rintro ⟨_, rfl⟩
      revert h1; decide
    simp [prrnDec, hnot, hdec]

end Zvt.C17
