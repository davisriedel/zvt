/-
  C09 — a connection that saw a failure is never reused; fresh ones are vetted.

  Four groups. One attempt: a failed one drops its connection (for a caller that polls again: `*_polls_again`, and the
  run that shows the hypothesis is needed), a good one keeps it. The retry loop: a live connection is reused, none
  means a handshake, and a handshake yields a vetted connection in a new slot or none. Whole call histories: a
  connection once abandoned never sees another byte (`Quiet`). The handshake's own traffic: registration, then the
  identity request, on the new slot only.
-/
import ZvtVerif.Proofs.ClientFrame
import ZvtVerif.Properties.C08

namespace Zvt.C09

/-- **A failed attempt abandons its connection** — for every sequence, terminal script and fault, and every caller
whose loop polls the stream again after an error item (all of feig.rs, `*_polls_again` below): an error item (transport
error, undecodable or unexpected reply, NACK) or a time-out leaves no live connection behind. -/
theorem failed_attempt_drops_connection {σ ρ : Type} (d : SeqDesc) (timeout : Nat) (step : σ → Item → Step σ ρ)
    (hpoll : PollsAgain step)
    (fuel : Nat) (w : World) (c : ConnSt) (st : SeqSt) (s : σ)
    (h : (runItems d timeout step fuel w c st s).2.2 = true) :
    (runItems d timeout step fuel w c st s).2.1.conn = none :=
  (runItems_frame d timeout step fuel w c st s).dropped hpoll h

/-! The hypothesis is about the CALLER and it is necessary: `into_stream_with_retry` clears `src.inner` only when it is
polled again after having yielded the error (`yield packet; if is_err { break }` … `src.inner = None`). A loop body
that leaves on the error item drops the stream first and the failed connection stays cached. Every loop of the client
continues on an error item: -/

theorem liftStep_polls_again (onOk : Nat → Val → Step Unit (CRes Unit)) : PollsAgain (liftStep onOk) :=
  fun _ => ⟨(), rfl⟩
theorem sysInfoStep_polls_again (e : EnumDef) : PollsAgain (sysInfoStep e) := fun _ => ⟨(), rfl⟩
theorem pendingStep_polls_again (e : EnumDef) : PollsAgain (pendingStep e) := fun _ => ⟨(), rfl⟩
theorem readCardStep_polls_again (e : EnumDef) : PollsAgain (readCardStep e) := fun s => ⟨s, rfl⟩
theorem beginStep_polls_again (e : EnumDef) : PollsAgain (beginStep e) := fun s => ⟨s, rfl⟩
theorem commitStep_polls_again (e : EnumDef) : PollsAgain (commitStep e) := fun s => ⟨s, rfl⟩

/-- … and the hypothesis cannot be dropped: a caller that leaves its loop on the error item keeps the failed
connection (kernel-evaluated run: the terminal answers the command with a NACK; the attempt failed, the connection
is still cached). -/
example :
    let d : SeqDesc := seqDesc "sequences::Initialization" [0x06, 0x93, 0x03, 0x12, 0x34, 0x56]
    let w : World := { faults := [((0, 0), .nack)], logs := [[.opened 0]] }
    let leave : Unit → Item → Step Unit Bool := fun _ it => match it with | .err => .ret false | .ok _ _ => .cont ()
    let r := runItems d 60 leave 8 w { id := 0 } .start ()
    r.2.2 = true ∧ r.2.1.conn.isSome = true := by
  decide +kernel

/-- **An exchange that completes normally keeps the connection — the very same one.** -/
theorem good_attempt_keeps_connection {σ ρ : Type} (d : SeqDesc) (timeout : Nat) (step : σ → Item → Step σ ρ)
    (fuel : Nat) (w : World) (c : ConnSt) (st : SeqSt) (s : σ)
    (h : (runItems d timeout step fuel w c st s).2.2 = false) :
    ∃ c', (runItems d timeout step fuel w c st s).2.1.conn = some c' ∧ c'.id = c.id :=
  have hr := runItems_frame d timeout step fuel w c st s
  (hr.kept h).imp fun c' hc' => ⟨hc', hr.live c' hc'⟩

/-- the next call reuses a live connection without reconnecting: no handshake, no time. -/
theorem live_connection_is_reused (cfg : Cfg) (w : World) (c : ConnSt) (h : w.conn = some c) :
    ensureConn cfg w = (w, true) := by
  unfold ensureConn; simp [h]

/-- without a live connection the only way on is the handshake (`inner::connect`). -/
theorem no_connection_means_handshake (cfg : Cfg) (w : World) (h : w.conn = none) :
    ensureConn cfg w = connect cfg w := by
  unfold ensureConn; simp [h]

/-- **The handshake vets or drops.** `connect` reports success only on the single path on which registration
(configured password and currency) AND the identity query were answered AND the serial number matched; on
every other path (refused, silent, NACK, undecodable or unexpected reply, different serial) no connection is
left behind. A successful handshake always yields a connection with the next unused identity — never one
that existed before. -/
theorem handshake_vets_or_drops (cfg : Cfg) (w : World) :
    ((connect cfg w).2 = true → ∃ c, (connect cfg w).1.conn = some c ∧ c.id = w.logs.length) ∧
    ((connect cfg w).2 = false → (connect cfg w).1.conn = none ∨ (connect cfg w).1.conn = w.conn) :=
  connect_outcome cfg w

/-- **After a failure the next attempt runs on a fresh, vetted connection**: with no live connection, an
attempt can only start (`ensureConn … = (_, true)`) on a connection created by a successful handshake, and its
identity is new (the number of connections opened so far), so the abandoned one is never picked up again. -/
theorem reconnect_is_fresh (cfg : Cfg) (w : World) (h : w.conn = none) (hok : (ensureConn cfg w).2 = true) :
    ∃ c, (ensureConn cfg w).1.conn = some c ∧ c.id = w.logs.length := by
  rw [no_connection_means_handshake cfg w h] at hok ⊢
  exact (connect_outcome cfg w).1 hok

/-- … and if the handshake fails there is still no connection (the retry loop tries again or gives up). -/
theorem failed_handshake_leaves_none (cfg : Cfg) (w : World) (h : w.conn = none) (hf : (ensureConn cfg w).2 = false) :
    (ensureConn cfg w).1.conn = none := by
  rw [no_connection_means_handshake cfg w h] at hf ⊢
  rcases (connect_outcome cfg w).2 hf with h1 | h1
  · exact h1
  · rw [h1]; exact h

/-- **An abandoned connection is never picked up again — over a whole exchange with all its retries.** Whatever
the terminal does (any script, any faults, any number of failed attempts and reconnects): when the exchange
returns, no connection slot has disappeared, and the live connection — if there is one — is either the very
connection that was live when the exchange started, or one opened during it (its identity is not among the
connections that existed before, so it is none of the abandoned ones). -/
theorem exchange_never_resurrects {σ ρ : Type} (cfg : Cfg) (seqName : String) (cmd : Bytes) (timeout : Nat)
    (step : σ → Item → Step σ ρ) (w : World) (s : σ) :
    w.logs.length ≤ (runOp cfg seqName cmd timeout step w s).2.logs.length ∧
    ∀ c', (runOp cfg seqName cmd timeout step w s).2.conn = some c' →
      (∃ c, w.conn = some c ∧ c'.id = c.id) ∨ w.logs.length ≤ c'.id :=
  (quiet_runOp cfg seqName cmd timeout step w s).fresh

/-- every handshake — successful or not — uses up one connection slot, so identities are never recycled. -/
theorem handshake_uses_new_slot (cfg : Cfg) (w : World) : (connect cfg w).1.logs.length = w.logs.length + 1 :=
  (connect_slots cfg w).1

/-- inside an exchange the client never switches connections. -/
theorem same_connection_within_exchange (d : SeqDesc) (dl : Nat) (w : World) (c : ConnSt) (st : SeqSt) :
    (seqNext d dl w c st).2.2.1.id = c.id := (seqNext_frame d dl w c st).id

/-! ### traffic: an abandoned connection never sees another byte — over whole call histories

`World.logs` is the per-connection log of the simulated terminal (`open@t`, `rx:HEX` for every packet the client
sends, `tclose@t` / `close@t`); slot `j` is connection `j`. `Quiet w w'` (Proofs/ClientFrame.lean): no slot
disappears, the live connection of `w'` is the live connection of `w` or one opened since, and the log of every slot
of `w` that is not its live connection is unchanged in `w'`. It is proved from attempts upward (one `stream.next()`
has `FrameRel`): for an attempt, a handshake, the retry loop, every operation of `Feig` and — by transitivity — every
history of calls. -/

/-- **Nothing is ever sent (or received, or closed) on a connection that is not the live one** — for ANY history
of public calls (configure, read_card, begin, commit, cancel), any terminal script, faults, pauses and time-outs:
the log of every connection that is not live at the start is, at the end, exactly what it was. -/
theorem abandoned_connection_stays_silent (cfg : Cfg) (cl : Client) (w : World) (calls : List ClientCall)
    (j : Nat) (hj : j < w.logs.length) (hdead : ∀ c, w.conn = some c → c.id ≠ j) :
    (runClientCalls cfg (cl, w) calls).2.logs[j]? = w.logs[j]? :=
  (quiet_calls cfg calls (cl, w)).frozen j hj hdead

/-- … and the connection that is live after any history is the one that was live before it or a connection opened
during it — never one of the abandoned ones. -/
theorem live_connection_after_history (cfg : Cfg) (cl : Client) (w : World) (calls : List ClientCall) (c' : ConnSt)
    (h : (runClientCalls cfg (cl, w) calls).2.conn = some c') :
    (∃ c, w.conn = some c ∧ c'.id = c.id) ∨ w.logs.length ≤ c'.id :=
  (quiet_calls cfg calls (cl, w)).fresh.2 c' h

/-- **After a failed attempt its connection is dead for good**: whatever the client is asked to do afterwards, not
a single further packet goes out on it. (Failed attempt = error item or time-out, caller polls again.) -/
theorem failed_connection_never_used {σ ρ : Type} (d : SeqDesc) (timeout : Nat) (step : σ → Item → Step σ ρ)
    (hpoll : PollsAgain step) (fuel : Nat) (w : World) (c : ConnSt) (st : SeqSt) (s : σ)
    (hc : c.id < w.logs.length)
    (hfail : (runItems d timeout step fuel w c st s).2.2 = true)
    (cfg : Cfg) (cl : Client) (calls : List ClientCall) :
    (runClientCalls cfg (cl, (runItems d timeout step fuel w c st s).2.1) calls).2.logs[c.id]? =
      (runItems d timeout step fuel w c st s).2.1.logs[c.id]? := by
  apply abandoned_connection_stays_silent
  · rw [(runItems_frame d timeout step fuel w c st s).nlogs]; exact hc
  · intro c' h
    rw [failed_attempt_drops_connection d timeout step hpoll fuel w c st s hfail] at h
    cases h

/-- **A connection that failed its vetting is never used for commands**: if the handshake does not succeed
(refused, silent, NACK, undecodable reply, aborted identity request, different serial number) the slot it opened
stays exactly as the handshake left it through every later call — the only packets it ever saw are the
handshake's own. -/
theorem rejected_connection_never_used (cfg : Cfg) (w : World) (hnone : w.conn = none)
    (hrej : (connect cfg w).2 = false) (cl : Client) (calls : List ClientCall) :
    (runClientCalls cfg (cl, (connect cfg w).1) calls).2.logs[w.logs.length]? = (connect cfg w).1.logs[w.logs.length]? := by
  apply abandoned_connection_stays_silent
  · rw [(connect_slots cfg w).1]; exact Nat.lt_succ_self _
  · intro c' h
    rcases (connect_outcome cfg w).2 hrej with h1 | h1
    · rw [h1] at h; cases h
    · rw [h1, hnone] at h; cases h

/-- the theorems on a concrete run (kernel-evaluated): the terminal drops connection 0 in the middle of the
reservation exchange; the retry registers and identifies on connection 1 and repeats the command there; a later
`cancel` runs on connection 1; connection 0 still shows exactly the seven entries it had when it failed. -/
example :
    let cfg : Cfg := { maxTx := 1, amount := 2500, currency := 978, password := 123456, readCardTimeout := 15,
                       serial := [65, 66], terminalId := [49] }
    let w : World := { serial := [0x41, 0x42, 0, 0, 0, 0, 0, 0], tid := [0x31, 0, 0, 0, 0, 0, 0, 0],
                       faults := [((0, 5), .close)] }
    let s1 := runClientCalls cfg ({}, w) [.begin [97]]
    let s2 := runClientCalls cfg ({}, w) [.begin [97], .cancel [97]]
    s1.2.logs.map List.length = [7, 8] ∧ s1.2.conn.map (·.id) = some 1 ∧
    s2.2.logs.map List.length = [7, 14] ∧ s2.2.logs[0]? = s1.2.logs[0]? ∧
    (s1.2.logs[1]?.map (·.take 4)) = some [.opened 2, .rx [0x06, 0x00, 0x06, 0x12, 0x34, 0x56, 0xde, 0x09, 0x78], .rx [0x80, 0, 0],
      .rx [0x0f, 0xa1, 0x02, 0x00, 0x01]] := by
  decide +kernel

/-- **Every new connection starts with registration and an identity check — and with nothing else.** What the client
writes on the connection a handshake opens (`World.sentOn`: the `rx` entries of the terminal's log of that connection)
is a prefix of

    registration (configured password, config byte DE, configured currency) · acknowledgement · identity request ·
    acknowledgement

in this order; when the handshake succeeds it is exactly these four packets. For every terminal behaviour. -/
theorem handshake_is_registration_then_identity (cfg : Cfg) (w : World) :
    (connect cfg w).1.sentOn w.logs.length <+: handshakePackets cfg ∧
    ((connect cfg w).2 = true → (connect cfg w).1.sentOn w.logs.length = handshakePackets cfg) :=
  connect_traffic cfg w

/-- … with the configured password and currency on the wire (kernel-evaluated). -/
example :
    handshakePackets { maxTx := 1, amount := 2500, currency := 978, password := 123456, readCardTimeout := 15,
                       serial := [65, 66], terminalId := [49] }
      = [[0x06, 0x00, 0x06, 0x12, 0x34, 0x56, 0xde, 0x09, 0x78], [0x80, 0x00, 0x00], [0x0f, 0xa1, 0x02, 0x00, 0x01],
         [0x80, 0x00, 0x00]] := by
  -- the two packet types are looked up once, in `C08.client_structs`; what is evaluated here is the encoding
  rw [handshakePackets, registrationCmd, sysInfoCmd, encodeReq, encodeReq, C08.client_structs.2.2.2.1,
    C08.client_structs.2.2.2.2.1]
  decide +kernel

/-- **A connection whose terminal failed the vetting never receives a command**: whatever the client is asked to
do afterwards, all it ever wrote on that connection is (a prefix of) the handshake's own four packets. -/
theorem rejected_connection_only_saw_the_handshake (cfg : Cfg) (w : World) (hnone : w.conn = none)
    (hrej : (connect cfg w).2 = false) (cl : Client) (calls : List ClientCall) :
    (runClientCalls cfg (cl, (connect cfg w).1) calls).2.sentOn w.logs.length <+: handshakePackets cfg := by
  rw [sentOn_of_logs_eq _ _ _ (rejected_connection_never_used cfg w hnone hrej cl calls)]
  exact (connect_traffic cfg w).1

/-- the handshake itself touches no older connection. -/
theorem handshake_touches_no_old_connection (cfg : Cfg) (w : World) (j : Nat) (hj : j < w.logs.length) :
    (connect cfg w).1.logs[j]? = w.logs[j]? := (connect_slots cfg w).2 j hj

/-- non-vacuity / vetting on a concrete run: a terminal reporting a different serial is registered with,
asked for its identity — and then dropped without a single command. -/
example :
    let cfg : Cfg := { maxTx := 1, amount := 2500, currency := 978, password := 123456, readCardTimeout := 15,
                       serial := [65, 66], terminalId := [49] }
    let w : World := { serial := [0x58, 0x59, 0, 0, 0, 0, 0, 0], tid := [0x31, 0, 0, 0, 0, 0, 0, 0] }
    (connect cfg w).2 = false ∧ (connect cfg w).1.conn.isNone = true ∧
      ((connect cfg w).1.logs.map List.length) = [6] := by
  decide +kernel

end Zvt.C09
