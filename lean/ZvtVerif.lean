import ZvtVerif.Basic
import ZvtVerif.Length
import ZvtVerif.Encoding
import ZvtVerif.Schema
import ZvtVerif.Derive
import ZvtVerif.Generated
import ZvtVerif.Driver
import ZvtVerif.Proofs.BytesLemmas
import ZvtVerif.Proofs.LengthLemmas
import ZvtVerif.Proofs.DeriveLemmas
import ZvtVerif.Properties.C16
import ZvtVerif.Proofs.EncodingLemmas
import ZvtVerif.Properties.C17
import ZvtVerif.Spec.Layout
import ZvtVerif.Proofs.SchemaEq
import ZvtVerif.Properties.C01
import ZvtVerif.Properties.C02
import ZvtVerif.Properties.C03
import ZvtVerif.Properties.C13
import ZvtVerif.Properties.C14
import ZvtVerif.Properties.C15
import ZvtVerif.Transport
import ZvtVerif.Sequence
import ZvtVerif.Properties.C04
import ZvtVerif.Properties.C05
import ZvtVerif.Properties.C06
import ZvtVerif.Properties.C06C
import ZvtVerif.Client
import ZvtVerif.Proofs.Framing
import ZvtVerif.Proofs.ClientSteps
import ZvtVerif.Proofs.ClientConnect
import ZvtVerif.Proofs.ClientRetry
import ZvtVerif.Proofs.ClientOps
import ZvtVerif.Proofs.ClientFrame

import ZvtVerif.Proofs.Pace
import ZvtVerif.Proofs.ClientWrites
import ZvtVerif.Properties.Traffic
import ZvtVerif.Properties.C07R
import ZvtVerif.Properties.C07
import ZvtVerif.Properties.C08
import ZvtVerif.Properties.C09
import ZvtVerif.Properties.C10
import ZvtVerif.Properties.C18
import ZvtVerif.Properties.C19
import ZvtVerif.Properties.C20
import ZvtVerif.WriteFile
import ZvtVerif.Properties.C11
import ZvtVerif.LabGenerated
import ZvtVerif.Properties.C12
import ZvtVerif.Proofs.NoPanic
import ZvtVerif.Proofs.TagLoop
import ZvtVerif.Proofs.RoundTrip
import ZvtVerif.Proofs.StructRT
import ZvtVerif.Proofs.Utf8DateTime
import ZvtVerif.Proofs.CanonDomain
import ZvtVerif.Proofs.Canon
import ZvtVerif.Properties.C13S
import ZvtVerif.Proofs.SizeBound
